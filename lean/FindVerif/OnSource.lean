import FindVerif.Tie
import FindVerif.TieTables
import FindVerif.Theorems.C01
import FindVerif.Theorems.C02Text
import FindVerif.Theorems.C03
import FindVerif.Theorems.C04
import FindVerif.Theorems.C05
import FindVerif.Theorems.C06Layout
import FindVerif.Theorems.C07
import FindVerif.Theorems.C08Text
import FindVerif.Theorems.C09
import FindVerif.Theorems.C10
import FindVerif.Theorems.C12
import FindVerif.Theorems.C13
import FindVerif.Theorems.C14
import FindVerif.Theorems.C16
import FindVerif.Theorems.C18
import FindVerif.Theorems.C19
import FindVerif.Theorems.C20
import FindVerif.Proofs.ParseProfile
/-
  Headline property theorems restated over the definitions that `tools/rs2lean.py` GENERATES from the
  current source (`FV.Gen.*`, regenerated on every run): each is the theorem about the hand-written
  model transported along the equality proved in `Tie.lean` / `TieTables.lean`.  If the source changes,
  either `Gen.*` changes (and this file no longer builds), or the statements below are about the
  changed code.  What they still take from the model: inside `Gen.parse` the climber, the error decision
  and the option update (`FV.climb`, `FV.dispatch`, `RunOptions.update`; see the head of `Tie.lean`), and
  the notions some statements are phrased in (the keyword table `testAlts`, `LexPrefix`, `climb`,
  `dispatch`, `FV.atom`, `initialManager`).
-/
namespace FV.OnSource
open FV FV.W FV.Spec FV.Spec.Printf FV.Scheme

/-- C03 (totality of `parse`, both build profiles): a result or an error value for every input, never a
    panic outcome. -/
theorem C03_parse (pf : Profile) (s : Text) :
    (∃ o e, Gen.parse pf s = .ok o e) ∨ (∃ err, Gen.parse pf s = .error err) := by
  rw [Tie.parse]; exact FV.C03_parse pf s

/-- C17 (the profile does not matter). -/
theorem C17_parse_profile (s : Text) : Gen.parse .debug s = Gen.parse .release s := by
  rw [Tie.parse]; exact FV.parse_profile s

/-- C06 (`parse ∘ write = id`): any layout of the canonical spelling of any option-free plain tree,
    behind any leading options and blanks, parses back to that tree with those options. -/
theorem C06_layout_tree (pf : Profile) (x : Bool) (lead s : Text) (gs : List GlobalOption) (e : Expr)
    (hp : Plain e) (hn : NoOpt e) (hlead : ∀ c ∈ lead, isBlank c = true)
    (hL : Layout pf (gs.map Token.global ++ spell x e) s) :
    Gen.parse pf (lead ++ s) = .ok (optionsOf (gs.map Token.global)) e := by
  rw [Tie.parse]; exact FV.C06_layout_tree pf x lead s gs e hp hn hlead hL

/-- C13 (options wherever they appear). -/
theorem C13_spec (pf : Profile) (s : Text) (gs : List GlobalOption) (rest : Text)
    (h1 : Gen.leadingGlobals pf s = .ok gs rest) :
    (rest = [] → Gen.parse pf s = .ok (optionsOf (gs.map Token.global)) (.test .true_)) ∧
    (∀ ts r', rest ≠ [] → Gen.lex pf rest = .ok ts r' →
      Gen.parse pf s =
        match climb pf (expressionOf (gs.map Token.global ++ ts)) with
        | .ok e _ => .ok (optionsOf (gs.map Token.global ++ ts)) e
        | .err _ c _ => .error (dispatch c r')
        | .panic x => .panic x) := by
  rw [Tie.parse, Tie.lex]; rw [Tie.leadingGlobals] at h1; exact FV.C13_spec pf s gs rest h1

/-- C14 (format segmentation): the translated format parser is the reference scanner, for all strings. -/
theorem C14 (pf : Profile) (s : Text) :
    match seg s with
    | some els => Gen.parseFormat pf s = .ok els []
    | none => ∃ c r, Gen.parseFormat pf s = .err true c r := by
  rw [Tie.parseFormat]; exact FV.C14 pf s

/-- C07 (numbers exact or rejected). -/
theorem C07_read_u32 (ds rest : Text) (hne : ds ≠ []) (hd : ∀ c ∈ ds, isDigit c = true) (hs : DigitStop rest) :
    Gen.parseU32 (ds ++ rest) =
      if decVal ds < 2 ^ 32 then .ok (decVal ds) rest
      else .err false [expected (cl!"unsigned_integer")] (ds ++ rest) := by
  rw [Tie.parseU32]; exact FV.C07_read (2 ^ 32) ds rest hne hd hs

/-- C08 (text → clauses → chmod's mode). -/
theorem C08_written (pf : Profile) (c : ClauseText) (cs : List ClauseText) (hv : ∀ ct ∈ c :: cs, ct.Valid)
    (hm : ∀ ct ∈ c :: cs, ct.op ≠ '-') :
    ∃ m, Gen.parsePermission pf (clauseText c ++ symTail cs) = .ok m [] ∧
      fromBits m = chmodFrom0 ((c :: cs).map ClauseText.clause) := by
  rw [Tie.parsePermission]; exact FV.C08_written pf c cs hv hm

/-- C19 (tree helpers): `Expression::action` / `complex_frames`. -/
theorem C19_action (e : Expr) : Gen.hasAction e = true ↔ ContainsAction e := by
  rw [TieTables.hasAction]; exact FV.C19_action e

theorem C19_frames (e : Expr) : Gen.complexFrames e = true ↔ NeedsFraming e := by
  rw [TieTables.complexFrames]; exact FV.C19_frames e

/-- C10 (mode choice). -/
theorem C10_mode (clk : Nat → Nat) (e : Expr) (o : RunOptions) (c : Compiled) (h : Gen.compile clk e o = .ok c) :
    c.ioMap.isSome = true ↔ NeedsFraming e := by
  rw [TieTables.compile] at h; exact FV.C10_mode clk e o c h

/-- C12 (unsupported constructs are refused). -/
theorem C12 (clk : Nat → Nat) (e : Expr) (o : RunOptions) (hp : plainB e = true) :
    ((∃ x, Gen.compile clk e o = .err x) ↔ hasUnsupported e = true) ∧
    (hasUnsupported e = false → ∃ c, Gen.compile clk e o = .ok c) := by
  rw [TieTables.compile]; exact FV.C12 clk e o hp

/-- C04 (a user string stays data): the escaping function is inverted by the reader. -/
theorem C04_literal_roundtrip (s rest : Text) :
    read1 1 ('"' :: Gen.schemeEscape s ++ '"' :: rest) = some (.str s, rest) := by
  rw [TieTables.schemeEscape]; exact FV.C04_literal_roundtrip s rest

/-- C20 (one place): the program template is prefix ++ quoted escaped path ++ suffix. -/
theorem C20_one_place (c : Compiled) (mdt : Text) :
    Gen.scheme c mdt = c.prefix_ ++ ('"' :: Gen.schemeEscape mdt ++ '"' :: c.suffix_) := by
  rw [TieTables.scheme, TieTables.schemeEscape]; exact FV.C20_one_place c mdt

/-- C20: the quoted, escaped path reads back as the path. -/
theorem C20_device_decodes (c : Compiled) (mdt : Text) :
    ∃ fuel, read1 fuel ('"' :: Gen.schemeEscape mdt ++ '"' :: c.suffix_) = some (.str mdt, c.suffix_) := by
  rw [TieTables.schemeEscape]; exact FV.C20_device_decodes c mdt

/-- C02 (translation validity, end to end on the emitted text): the program that `compile` and `scheme`
    emit, read back by the independent reader and run on any file, does what find's rules say for the
    tree. -/
theorem C02_end_to_end (rt : Rt) (file : File) (clk : Nat → Nat) (now : Nat) (e : Expr) (o : RunOptions) (c : Compiled) (mdt : Text)
    (hclk : ∀ i, clk i = now) (hc : Gen.compile clk e o = .ok c)
    (htags : ∀ kv ∈ c.ioMap.getD [], kv.1 < 0xD800)
    (hdef : evalFind rt now (policyTree e) file ≠ .undefined) :
    ∃ forms p, readAll (Gen.scheme c mdt) = some forms ∧ programOf forms = some p ∧
      runPolicy rt file c.ioMap p.bindings p.body = .outcome (evalFind rt now (policyTree e) file) := by
  rw [TieTables.compile] at hc; rw [TieTables.scheme]
  exact FV.C02_end_to_end rt file clk now e o c mdt hclk hc htags hdef

/-- C09 (no implicit print when an action occurs anywhere). -/
theorem C09_nowrap (clk : Nat → Nat) (e : Expr) (o : RunOptions) (c : Compiled)
    (h : Gen.compile clk e o = .ok c) (ha : ContainsAction e) :
    ∃ st, Gen.compileExpr clk e { mgr := initialManager e } = .ok (c.policyBody, st) ∧
      c.definitions = st.mgr.definitions ∧ c.ioMap = st.mgr.printerMap := by
  rw [TieTables.compile] at h; rw [TieTables.compileExpr]
  exact FV.C09_nowrap clk e o c h ha

/-- C16 (framed mode: only frame printers write). -/
theorem C16_framed_only_frame_writes (clk : Nat → Nat) (e : Expr) (body : Text) (st : CState)
    (h : Gen.compileExpr clk e { mgr := Manager.distInit } = .ok (body, st)) :
    st.mgr.distributed = true ∧ ∀ b ∈ st.mgr.vars, b.framedOk := by
  rw [TieTables.compileExpr] at h
  exact FV.C16_framed_only_frame_writes clk e body st h

/-- C05 (a unary test keyword followed by a blank run and its argument). -/
theorem C05_test_unary {α : Type} (pf : Profile) (kw : Text) (tr : α → Test) (argp : P Char α)
    (hm : (kw, unary kw tr argp) ∈ testAlts pf) (ws x : Text) (h : BlankRun ws x) :
    Gen.token pf (kw ++ (ws ++ x)) =
      match argp x with
      | .ok v r => .ok (.test (tr v)) r
      | .err _ c r => .err true (c ++ [label kw, label (cl!"test"), label (cl!"syntax")]) r
      | .panic s => Gen.token pf (kw ++ (ws ++ x)) := by
  rw [Tie.token]; exact FV.C05_test_unary pf kw tr argp hm ws x h

/-- C18 (an unknown word is quoted whole). -/
theorem C18_unknown (pf : Profile) (s : Text) (gs : List GlobalOption) (rest : Text) (pre : List Token) (r : Text)
    (h1 : Gen.leadingGlobals pf s = .ok gs rest) (hne : rest ≠ [])
    (hpre : LexPrefix pf (rest.dropWhile isBlank) pre r) (hr : r ≠ [] ∨ pre = [])
    (htok : Gen.token pf r = .err false [expected (cl!"invalid_token"), label (cl!"syntax")] r) :
    Gen.parse pf s = .error (.invalidToken (nextWord r)) := by
  rw [Tie.leadingGlobals] at h1; rw [Tie.token] at htok; rw [Tie.parse]
  exact FV.C18_unknown pf s gs rest pre r h1 hne hpre hr htok

/-- C01 (the operator grammar, all token lists): the translated `parser` — over the `atom` parser obtained by
    closing the translated, open-recursive `atom` body with nesting fuel (`Tie.atom_step`) — accepts exactly
    the sentences of the find grammar and returns the grammar's tree, with every token consumed. -/
theorem C01_iff (pf : Profile) (ts : List Token) (e : Expr) :
    Gen.parserTop pf (FV.atom pf (ts.length + 1)) ts = .ok e [] ↔ GList ts e := by
  rw [← Tie.parserTop]; exact FV.C01_iff pf ts e

end FV.OnSource

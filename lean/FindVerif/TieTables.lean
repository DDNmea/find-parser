import FindVerif.Gen.Tables
import FindVerif.Model.Lex.Permission
import FindVerif.Model.Parse
/-
  Static tie, part 2 (DESIGN.md §0.7): the constant tables, templates and code generators of `ast.rs`,
  `permission.rs`, `scheme/target_scheme.rs`, `scheme/mod.rs`, `error.rs`, `lib.rs` and the binding texts
  of `scheme/manager.rs`, as read from the current source by `tools/rs2lean.py` (`Gen/Tables.lean`), are
  the model's: a constant table by a case split over the constructors, a template by reassociating the
  appends, a recursive function by induction.  As in `Tie.lean`, inside this namespace `schemeEscape`,
  `compileExpr`, … are the theorems; the functions are written `Gen.schemeEscape` and `FV.schemeEscape`.
-/
namespace FV.TieTables
open FV

/-! ### manager.rs / target_scheme.rs: the escaping functions (anchors of C04 and C20) -/

theorem schemeEscape : Gen.schemeEscape = FV.schemeEscape := by
  funext s
  induction s with
  | nil => rfl
  | cons c cs ih =>
    show Gen.escapeChar c ++ Gen.schemeEscape cs = _
    rw [ih]
    rfl

theorem isPattern : Gen.isPattern = FV.isPattern := rfl
theorem terminatorEscape : Gen.terminatorEscape = FV.terminatorEscape := by funext t; cases t <;> rfl
theorem templateEscape : Gen.templateEscape = FV.templateEscape := by
  funext s; simp only [Gen.templateEscape, FV.templateEscape, schemeEscape]

/-! ### ast.rs, permission.rs, target_scheme.rs: constant tables and comparison templates -/

theorem sizeMult : Gen.sizeMult = Size.mult := by funext s; cases s <;> rfl
theorem timeSecs : Gen.timeSecs = TimeSpec.secs := by funext t; cases t <;> rfl
theorem fileTypeOctal : Gen.fileTypeOctal = FileType.octal := by funext t; cases t <;> rfl
theorem permValue : Gen.permValue = FV.permValue := rfl
theorem specialLiteral : Gen.specialLiteral = FV.specialLiteral := by funext s; cases s <;> rfl
theorem placeholder : Gen.placeholder = FV.placeholder := by funext f; cases f <;> rfl
theorem snippetBody : Gen.snippetBody = FV.snippetBody := by funext f; cases f <;> rfl

theorem formatCmp : Gen.formatCmp = FV.formatCmp := by funext c t; cases c <;> rfl
theorem formatCmp2 {α : Type} : @Gen.formatCmp2 α = @FV.formatCmp2 α := by funext c l r; cases c <;> rfl
theorem sizeMatching : Gen.sizeMatching = FV.sizeMatching := by funext s; cases s <;> rfl
theorem compilePermCheck : Gen.compilePermCheck = FV.compilePermCheck := by funext p; cases p <;> rfl

/-! ### target_scheme.rs, mod.rs, ast.rs: the code generators, `compile`, `scheme`, the tree helpers -/

theorem exactByteSize : Gen.exactByteSize = FV.exactByteSize := by
  funext s; simp only [Gen.exactByteSize, FV.exactByteSize, sizeMult]

theorem compileSizeComp : Gen.compileSizeComp = FV.compileSizeComp := by
  funext c; simp only [Gen.compileSizeComp, FV.compileSizeComp, formatCmp2, sizeMatching, exactByteSize]

theorem compileTypeList : Gen.compileTypeList = FV.compileTypeList := by
  funext l; simp only [Gen.compileTypeList, FV.compileTypeList, fileTypeOctal]; rfl

theorem joinWith_nil : ∀ (ts : List Text), joinWith [] ts = ts.flatten
  | [] => rfl
  | [x] => by simp [joinWith]
  | x :: y :: r => by
    have ih := joinWith_nil (y :: r)
    simp only [joinWith, List.append_nil, ih, List.flatten_cons]

theorem skelElement_model : Gen.skelElement FV.templateEscape FV.placeholder FV.specialLiteral = FV.elementTemplate := by
  funext e; cases e <;> rfl

theorem skelItems_model : Gen.skelItems FV.snippetBody = FV.itemsOf := by
  funext es; rfl

theorem collect_templateOf (es : List FormatElement) :
    (match Gen.skelCollect FV.elementTemplate es with
     | .ok ts => FV.templateOf es = .ok ts.flatten
     | .error x => FV.templateOf es = .error x) := by
  induction es with
  | nil => rfl
  | cons e es ih =>
    simp only [Gen.skelCollect, FV.templateOf]
    cases he : FV.elementTemplate e with
    | error x => rfl
    | ok t =>
      simp only
      cases hc : Gen.skelCollect FV.elementTemplate es with
      | error x => rw [hc] at ih; simp only at ih; rw [ih]
      | ok ts => rw [hc] at ih; simp only at ih; rw [ih]; simp only [List.flatten_cons]

/-- `impl TargetScheme for Vec<FormatElement>`, matched as a statement skeleton: which function renders
    each kind of element, which fields contribute an argument, the separators and the
    `(format #f "…" …)` template are read from the source. -/
theorem compileFormat : Gen.compileFormat = FV.compileFormat := by
  funext es
  unfold Gen.compileFormat Gen.formatSkeleton FV.compileFormat
  rw [templateEscape, placeholder, specialLiteral, snippetBody, skelElement_model, skelItems_model]
  have h := collect_templateOf es
  cases hc : Gen.skelCollect FV.elementTemplate es with
  | error x => rw [hc] at h; simp only at h; rw [h]
  | ok ts => rw [hc] at h; simp only at h; rw [h]; simp only [joinWith_nil]

/-- `impl TargetScheme for Test`: 24 arms read from the source; the 14 remaining arms (the unsupported
    tests and `-xattr-match`) refer to the model and are pinned by their token text. -/
theorem compileTest : Gen.compileTest = FV.compileTest := by
  funext clk t st
  unfold Gen.compileTest
  rw [schemeEscape, compileSizeComp, compileTypeList]
  cases t <;> rfl

/-- `impl TargetScheme for Action`: 9 arms read from the source (which printer is requested with which
    terminator, the template around its name and the format); the three refused actions refer to the
    model (their payload is a `Debug` rendering). -/
theorem compileAction : Gen.compileAction = FV.compileAction := by
  funext a st; cases a <;> rfl

/-- `CompiledExpression::scheme(mdt)`: the program template read from the `format!` call is the
    model's prefix ++ quoted escaped path ++ suffix (C20_one_place is about exactly this shape). -/
theorem scheme : Gen.scheme = Compiled.scheme := by
  funext c mdt
  simp only [Gen.scheme, Compiled.scheme, Compiled.prefix_, Compiled.suffix_, schemeEscape, List.append_assoc]
  rfl

/-- `Expression::action` (the anchor of C19, C09). -/
theorem hasAction : Gen.hasAction = Expr.hasAction := by
  funext e
  induction e <;> simp only [Gen.hasAction, Expr.hasAction, *]

/-- `Expression::complex_frames` (the anchor of C19, C10).  The one arm that is not a constant (a formatted
    print whose last element is not the newline escape) refers to the model and is pinned by its text. -/
theorem complexFrames : Gen.complexFrames = Expr.complexFrames := by
  funext e
  induction e with
  | action a => cases a <;> rfl
  | _ => simp only [Gen.complexFrames, Expr.complexFrames, *]

/-- `impl TargetScheme for Expression` and `for Operator`; the refused positional arm refers to the model. -/
theorem compileExpr (clk : Nat → Nat) : ∀ (e : Expr) (st : CState), Gen.compileExpr clk e st = FV.compileExpr clk e st := by
  have bin (hd : Text) : Gen.seq2 hd (cl!" ") (cl!")") = FV.compileExpr.bin hd := rfl
  intro e
  induction e with
  | test t => intro st; simp only [Gen.compileExpr, FV.compileExpr, compileTest]
  | action a => intro st; simp only [Gen.compileExpr, FV.compileExpr, compileAction]
  | global g => intro st; rfl
  | positional p => intro st; rfl
  | prec e ih => intro st; rfl
  | not e ih => intro st; simp only [Gen.compileExpr, FV.compileExpr, ih]; rfl
  | and a b iha ihb => intro st; simp only [Gen.compileExpr, FV.compileExpr, bin, iha, funext ihb]
  | or a b iha ihb => intro st; simp only [Gen.compileExpr, FV.compileExpr, bin, iha, funext ihb]
  | list a b iha ihb => intro st; simp only [Gen.compileExpr, FV.compileExpr, bin, iha, funext ihb]

/-- `scheme::compile`, plain Rust: the translator matches its statement skeleton and reads the conditions
    (`complex_frames`, `!action()`), the branches and the default options text out of it. -/
theorem compile : Gen.compile = FV.compile := by
  funext clk e o
  simp only [Gen.compile, FV.compile, compileExpr, hasAction, complexFrames]
  rfl

/-! ### error.rs and lib.rs (anchors of C18 and C13) -/

theorem explainTable : Gen.explainTable = FV.explainTable := rfl

theorem contextStep : Gen.contextStep = SyntaxContext.step := by
  funext acc c; cases c <;> rfl

/-- The decision table at the end of `ParserError::dispatch` (which error variant, with which
    keyword, word and explanation) is the model's; the statements before it (reversing the context
    list, the fold, re-reading the next word with `String::parse`) are pinned by their text. -/
theorem dispatchDecision (ctx : List Ctx) (rest : Text) :
    FV.dispatch ctx rest =
      (let sc := ctx.reverse.foldl Gen.contextStep {}
       Gen.dispatchDecision sc.test sc.action sc.global sc.description
         (match parseString rest with | .ok w _ => w | _ => [])) := by
  rw [contextStep]
  unfold FV.dispatch Gen.dispatchDecision
  rfl

theorem runOptionsUpdate : Gen.runOptionsUpdate = RunOptions.update := by
  funext o g; cases g <;> rfl

/-! ### manager.rs (anchor of C11, C10, C16): the TEXT of every binding the managers push, with the
    index expression used at each site, the generated names, the fixed bindings and start index of the
    framed manager, the separators.  The control flow of the managers (look up, allocate, record) is
    not translated: it stays tied by the byte-for-byte correspondence. -/

theorem localDefaultPortVars (i : Nat) :
    [Binding.render (.stdoutPort i), Binding.render (.mutex (i + 1))] = Gen.localDefaultPortVars i := by
  simp only [Binding.render, Gen.localDefaultPortVars, lf3, List.append_assoc]
  rfl

theorem localPrinterVar (i p m : Nat) (term : Option Char) :
    Binding.render (.printerL i p m term) = Gen.localPrinterVar i p m term := by
  simp only [Binding.render, Gen.localPrinterVar, lf3, terminatorEscape, List.append_assoc]
  rfl

theorem localFilePortVars (i : Nat) (filename : Text) :
    [Binding.render (.filePort i filename), Binding.render (.mutex (i + 1))] = Gen.localFilePortVars i filename := by
  simp only [Binding.render, Gen.localFilePortVars, lf3, schemeEscape, List.append_assoc]
  rfl

theorem localFilePortFini (i : Nat) :
    cl!"(close-port " ++ lf3 (cl!"port") i ++ cl!")" = Gen.localFilePortFini i := by
  simp only [Gen.localFilePortFini, lf3, List.append_assoc]
  rfl

theorem matcherName : Gen.matcherName = FV.matcherName := by
  funext p b; simp only [Gen.matcherName, FV.matcherName, isPattern]; rfl

theorem matcherVar (i : Nat) (pattern : Text) (insensitive : Bool) :
    Binding.render (.matcher i pattern insensitive) = Gen.matcherVar i pattern insensitive := by
  simp only [Binding.render, Gen.matcherVar, lf3, matcherName, schemeEscape, List.append_assoc]
  rfl

theorem framedPrinterVar (i : Nat) : Binding.render (.printerD i) = Gen.framedPrinterVar i := by
  simp only [Binding.render, Gen.framedPrinterVar, lf3, List.append_assoc]
  rfl

theorem framedInit : Manager.distInit.vars.map Binding.render = Gen.framedFixedVars
    ∧ Manager.distInit.varIndex = Gen.framedStartIndex ∧ Manager.localInit.varIndex = Gen.plainStartIndex
    ∧ Manager.localInit.vars = [] :=
  ⟨rfl, rfl, rfl, rfl⟩

theorem printerName (i : Nat) : lf3 (cl!"print") i = Gen.printerName i := by
  simp only [Gen.printerName, lf3, List.append_assoc]
  rfl

theorem matcherRef (i : Nat) : lf3 (cl!"match") i = Gen.matcherRef i := by
  simp only [Gen.matcherRef, lf3, List.append_assoc]
  rfl

theorem definitionsAndModules (m : Manager) :
    m.definitions = joinWith (if m.distributed then Gen.framedSeparator else Gen.plainSeparator) (m.vars.map Binding.render)
    ∧ m.modules = (if m.distributed then Gen.framedModules else Gen.plainModules) := by
  constructor
  · unfold Manager.definitions; cases m.distributed <;> rfl
  · unfold Manager.modules; cases m.distributed <;> rfl

end FV.TieTables

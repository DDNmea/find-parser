import FindVerif.Model.Parse
import FindVerif.Spec.Options
/-
  The option bookkeeping of `_parse` (`updateAll` over the leading options, `sweepGlobals` over the
  lexed tokens) against the spec's fold: wherever every option met is one `RunOptions.update`
  accepts, both succeed, the options are the spec's left fold and the tokens are mapped one by one.
-/
namespace FV
open Spec

/-- The options `RunOptions.update` accepts (the option reader returns no others: `parseGlobal_honoured`). -/
def GlobalOption.honoured : GlobalOption → Prop
  | .depth => True
  | .threads _ => True
  | _ => False

def Token.globalsHonoured : Token → Prop
  | .global g => g.honoured
  | _ => True

theorem update_honoured (o : RunOptions) (g : GlobalOption) (h : g.honoured) : o.update g = some (applyOption o g) := by
  cases g <;> simp [GlobalOption.honoured] at h <;> rfl

theorem updateAll_spec : ∀ (gs : List GlobalOption) (o : RunOptions), (∀ g ∈ gs, g.honoured) →
    updateAll o gs = some (gs.foldl applyOption o)
  | [], o, _ => rfl
  | g :: gs, o, h => by
    simp only [updateAll, update_honoured o g (h g (by simp)), List.foldl_cons]
    exact updateAll_spec gs _ (fun x hx => h x (by simp [hx]))

/-- The step of `Spec.optionsOf`. -/
def optStep (o : RunOptions) (t : Token) : RunOptions :=
  match t with
  | .global g => applyOption o g
  | _ => o

/-- An option token read as `-true`: the map in `Spec.expressionOf`. -/
def untrue (t : Token) : Token := if isGlobalTok t then Token.test .true_ else t

theorem optionsOf_eq (ts : List Token) : optionsOf ts = ts.foldl optStep {} := rfl

theorem foldl_optStep_globals (gs : List GlobalOption) (o : RunOptions) :
    (gs.map Token.global).foldl optStep o = gs.foldl applyOption o := by
  induction gs generalizing o with
  | nil => rfl
  | cons g gs ih => simp [optStep, ih]

theorem sweepGlobals_spec : ∀ (ts : List Token) (o : RunOptions), (∀ t ∈ ts, t.globalsHonoured) →
    sweepGlobals o ts = some (ts.foldl optStep o, ts.map untrue)
  | [], o, _ => rfl
  | t :: ts, o, h => by
    cases t with
    | global g =>
      have hg : g.honoured := h (.global g) (by simp)
      simp only [sweepGlobals, update_honoured o g hg,
        sweepGlobals_spec ts _ (fun x hx => h x (by simp [hx])), Option.map_some, List.foldl_cons, List.map_cons]
      rfl
    | _ =>
      simp only [sweepGlobals, sweepGlobals_spec ts o (fun x hx => h x (by simp [hx])), Option.map_some,
        List.foldl_cons, List.map_cons]
      rfl

theorem untrue_not_global (t : Token) : isGlobalTok (untrue t) = false := by
  cases t <;> rfl

end FV

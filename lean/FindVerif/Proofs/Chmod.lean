import FindVerif.Spec.Chmod
import FindVerif.Proofs.LexGood
/- The model's mask arithmetic computes chmod's per-bit rules (for `+` and `=`; for `-` it computes
   something else, characterised exactly).  Masks are read through `fromBits`, which turns `|||`,
   `&&&` and `!` on modes into the Boolean operations on each (class, permission) bit; a who-text
   denotes the mask that selects its classes, a permission-text the mask that selects its letters. -/
namespace FV
open Spec

def bitIdx (c : Who) (p : Perm) : Nat :=
  (match c with | .u => 6 | .g => 3 | .o => 0) + (match p with | .r => 2 | .w => 1 | .x => 0)

def fromBits (m : Nat) : PermFn := fun c p => m.testBit (bitIdx c p)

theorem bitIdx_lt (c : Who) (p : Perm) : bitIdx c p < 12 := by cases c <;> cases p <;> decide

theorem fromBits_or (a b : Nat) (c : Who) (p : Perm) : fromBits (a ||| b) c p = (fromBits a c p || fromBits b c p) :=
  Nat.testBit_or ..

theorem fromBits_and (a b : Nat) (c : Who) (p : Perm) : fromBits (a &&& b) c p = (fromBits a c p && fromBits b c p) :=
  Nat.testBit_and ..

theorem modeNot_testBit (m i : Nat) (h : i < 12) : (modeNot m).testBit i = !m.testBit i := by
  have h12 : ∀ i, i < 12 → (0o7777 : Nat).testBit i = true := by decide
  simp [modeNot, Nat.testBit_xor, Nat.testBit_and, h12 i h]

theorem fromBits_modeNot (a : Nat) (c : Who) (p : Perm) : fromBits (modeNot a) c p = !fromBits a c p :=
  modeNot_testBit _ _ (bitIdx_lt c p)

variable {t l : Nat} {ws : List Who} {ps : List Perm}

theorem add_spec (ht : ∀ c p, fromBits t c p = decide (c ∈ ws)) (hl : ∀ c p, fromBits l c p = decide (p ∈ ps)) (m : Nat) :
    fromBits ((PartialPermission.add (t &&& l)).update m) = applyClause ⟨ws, .add, ps⟩ (fromBits m) := by
  funext c p
  simp only [PartialPermission.update, applyClause, clauseBit, fromBits_or, fromBits_and, ht, hl]
  by_cases hc : c ∈ ws <;> simp [hc]

theorem set_spec (ht : ∀ c p, fromBits t c p = decide (c ∈ ws)) (hl : ∀ c p, fromBits l c p = decide (p ∈ ps)) (m : Nat) :
    fromBits ((PartialPermission.set t l).update m) = applyClause ⟨ws, .set, ps⟩ (fromBits m) := by
  funext c p
  simp only [PartialPermission.update, applyClause, clauseBit, fromBits_or, fromBits_and, fromBits_modeNot, ht, hl]
  by_cases hc : c ∈ ws <;> simp [hc]

/-- `-` (known finding K1): what the code computes — it clears, within the listed classes, the
    permissions that are NOT listed (chmod clears the listed ones). -/
theorem del_actual (ht : ∀ c p, fromBits t c p = decide (c ∈ ws)) (hl : ∀ c p, fromBits l c p = decide (p ∈ ps)) (m : Nat) :
    fromBits ((PartialPermission.del (t &&& modeNot l)).update m)
      = fun c p => fromBits m c p && !(decide (c ∈ ws) && !decide (p ∈ ps)) := by
  funext c p
  simp only [PartialPermission.update, fromBits_and, fromBits_modeNot, ht, hl]

/-- Stated for the set-id and sticky bits, but the bound `9 ≤ i` plays no part in the proof; that the masks
    `mkPartial` builds are clear at those bits is not proved, so this says nothing yet about parsed clauses. -/
theorem update_special (pp : PartialPermission) (m i : Nat) (hi : 9 ≤ i) (hm : m.testBit i = false)
    (hpp : match pp with
      | .add b => b.testBit i = false
      | .set t _ => t.testBit i = false
      | .del _ => True) : (pp.update m).testBit i = false := by
  cases pp with
  | add b => simp [PartialPermission.update, Nat.testBit_or, hm, hpp]
  | del b => simp [PartialPermission.update, Nat.testBit_and, hm]
  | set t l => simp [PartialPermission.update, Nat.testBit_or, Nat.testBit_and, hm, hpp]

theorem symMode_bits (t : Text) (hne : t ≠ []) (h : ∀ ch ∈ t, (permValue ch).isSome) :
    ∃ m, symMode t = some m ∧ ∀ c p, fromBits m c p = t.any fun ch => fromBits ((permValue ch).getD 0) c p := by
  refine ⟨_, symMode_eq t hne h, fun c p => ?_⟩
  have fold : ∀ (cs : Text) (a : Nat), fromBits (cs.foldl (fun a ch => a ||| (permValue ch).getD 0) a) c p =
      (fromBits a c p || cs.any fun ch => fromBits ((permValue ch).getD 0) c p) := by
    intro cs
    induction cs with
    | nil => intro a; simp
    | cons d cs ih => intro a; simp [ih, fromBits_or, Bool.or_assoc]
  rw [fold]
  simp [fromBits]

theorem whoOfChar_isSome {ch : Char} (h : (whoOfChar ch).isSome) : ch = 'u' ∨ ch = 'g' ∨ ch = 'o' ∨ ch = 'a' := by
  apply Decidable.by_contra
  intro hn
  simp only [not_or] at hn
  simp [whoOfChar, hn] at h

theorem permOfChar_isSome {ch : Char} (h : (permOfChar ch).isSome) : ch = 'r' ∨ ch = 'w' ∨ ch = 'x' := by
  apply Decidable.by_contra
  intro hn
  simp only [not_or] at hn
  simp [permOfChar, hn] at h

theorem opOfChar_isSome {c : Char} (h : (opOfChar c).isSome) : c = '+' ∨ c = '-' ∨ c = '=' := by
  apply Decidable.by_contra
  intro hn
  simp only [not_or] at hn
  simp [opOfChar, hn] at h

theorem who_bits {ch : Char} (h : (whoOfChar ch).isSome) : (permValue ch).isSome ∧
    ∀ c p, fromBits ((permValue ch).getD 0) c p = decide (c ∈ (whoOfChar ch).getD []) := by
  rcases whoOfChar_isSome h with rfl | rfl | rfl | rfl <;> exact ⟨rfl, fun c p => by cases c <;> cases p <;> rfl⟩

theorem perm_bits {ch : Char} (h : (permOfChar ch).isSome) : (permValue ch).isSome ∧
    ∀ c p, fromBits ((permValue ch).getD 0) c p = decide (some p = permOfChar ch) := by
  rcases permOfChar_isSome h with rfl | rfl | rfl <;> exact ⟨rfl, fun c p => by cases c <;> cases p <;> rfl⟩

theorem any_who {w : Text} (h : ∀ ch ∈ w, (whoOfChar ch).isSome) (c : Who) (p : Perm) :
    (w.any fun ch => fromBits ((permValue ch).getD 0) c p) = decide (c ∈ (w.filterMap whoOfChar).flatten) := by
  induction w with
  | nil => rfl
  | cons d w ih =>
    obtain ⟨x, hx⟩ := Option.isSome_iff_exists.mp (h d (List.mem_cons_self ..))
    have := (who_bits (h d (List.mem_cons_self ..))).2 c p
    simp only [hx, Option.getD_some] at this
    simp only [List.any_cons, this, ih fun ch hch => h ch (List.mem_cons_of_mem _ hch), List.filterMap_cons, hx,
      List.flatten_cons, List.mem_append, Bool.decide_or]

theorem any_perm {t : Text} {ps : List Perm} (h : t.mapM permOfChar = some ps) (c : Who) (p : Perm) :
    (t.any fun ch => fromBits ((permValue ch).getD 0) c p) = decide (p ∈ ps) := by
  induction t generalizing ps with
  | nil => cases h; rfl
  | cons d t ih =>
    obtain ⟨q, qs, hq, hqs, rfl⟩ := mapM_cons_eq_some.mp h
    simp [(perm_bits (ch := d) (by rw [hq]; rfl)).2, hq, ih hqs]

theorem symMode_who (w : Text) (hne : w ≠ []) (h : ∀ ch ∈ w, (whoOfChar ch).isSome) :
    ∃ m, symMode w = some m ∧ ∀ c p, fromBits m c p = decide (c ∈ (w.filterMap whoOfChar).flatten) := by
  obtain ⟨m, hm, hb⟩ := symMode_bits w hne fun ch hch => (who_bits (h ch hch)).1
  exact ⟨m, hm, fun c p => by rw [hb, any_who h]⟩

theorem symMode_perm (t : Text) (ps : List Perm) (hne : t ≠ []) (h : t.mapM permOfChar = some ps) :
    ∃ m, symMode t = some m ∧ ∀ c p, fromBits m c p = decide (p ∈ ps) := by
  obtain ⟨m, hm, hb⟩ := symMode_bits t hne fun ch hch => (perm_bits (mapM_isSome h ch hch)).1
  exact ⟨m, hm, fun c p => by rw [hb, any_perm h]⟩

end FV

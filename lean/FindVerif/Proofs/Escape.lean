import FindVerif.Model.Compile
import FindVerif.Spec.Scheme.Read
import FindVerif.Proofs.Lists
/-
  The string-literal escaping used at every interpolation site is inverted by the reader:
  `"` ++ schemeEscape s ++ `"` reads back as exactly `s`, whatever follows.  For the `\xHH;` escapes
  the hexadecimal numerals are read back as the decimal ones are in Proofs/Dec.lean, by the same three
  facts about `natToHexAux` (its fold with the accumulator general, every digit in a given class, never empty).
  Escaping commutes with the doubling of tildes, so the literal text of a format template reads back
  as the text with its tildes doubled (`escapes_template`).
-/
namespace FV
open Scheme

theorem hexVal_hexDigit : ∀ k, k < 16 → hexVal? (hexDigit k) = some k := by decide

def hexStep (acc : Option Nat) (c : Char) : Option Nat :=
  match acc, hexVal? c with
  | some a, some v => some (a * 16 + v)
  | _, _ => none

theorem hexNum_eq (cs : List Char) (h : cs ≠ []) : hexNum? cs = cs.foldl hexStep (some 0) := by
  cases cs with
  | nil => exact absurd rfl h
  | cons c cs => rfl

/-- With the accumulator general the induction needs no power of 16. -/
theorem natToHexAux_fold : ∀ (fuel n : Nat) (acc : List Char), n < fuel →
    (natToHexAux fuel n acc).foldl hexStep (some 0) = acc.foldl hexStep (some n) := by
  intro fuel
  induction fuel with
  | zero => intro n acc h; omega
  | succ f ih =>
    intro n acc h
    have hd : hexStep (some (n / 16)) (hexDigit (n % 16)) = some n := by
      simp only [hexStep, hexVal_hexDigit _ (Nat.mod_lt _ (by omega)), Nat.div_add_mod']
    simp only [natToHexAux]
    split
    · next h0 => rw [h0] at hd; rw [List.foldl_cons, hd]
    · rw [ih _ _ (by omega), List.foldl_cons, hd]

theorem natToHexAux_ne_nil (fuel n : Nat) {acc : List Char} (h : acc ≠ []) : natToHexAux fuel n acc ≠ [] := by
  induction fuel generalizing n acc with
  | zero => exact h
  | succ f ih =>
    simp only [natToHexAux]
    split
    · simp
    · exact ih _ (by simp)

theorem natToHex_ne_nil (n : Nat) : natToHex n ≠ [] := by
  simp only [natToHex, natToHexAux]
  split
  · simp
  · exact natToHexAux_ne_nil _ _ (by simp)

theorem hexNum_natToHex (n : Nat) : hexNum? (natToHex n) = some n := by
  rw [hexNum_eq _ (natToHex_ne_nil n)]
  exact natToHexAux_fold (n + 1) n [] (Nat.lt_succ_self n)

theorem natToHexAux_forall {p : Char → Prop} (hp : ∀ k, k < 16 → p (hexDigit k)) :
    ∀ (fuel n : Nat) (acc : List Char), (∀ c ∈ acc, p c) → ∀ c ∈ natToHexAux fuel n acc, p c := by
  intro fuel
  induction fuel with
  | zero => intro n acc h; simpa [natToHexAux] using h
  | succ f ih =>
    intro n acc h
    simp only [natToHexAux]
    have hacc : ∀ c ∈ hexDigit (n % 16) :: acc, p c := by
      intro c hc; simp at hc; rcases hc with rfl | hc
      · exact hp _ (Nat.mod_lt _ (by omega))
      · exact h c hc
    split
    · exact hacc
    · exact ih _ _ hacc

theorem natToHex_forall {p : Char → Prop} (hp : ∀ k, k < 16 → p (hexDigit k)) (n : Nat) : ∀ c ∈ natToHex n, p c :=
  natToHexAux_forall hp _ _ [] (by simp)

theorem natToHex_nondelim (n : Nat) : ∀ c ∈ natToHex n, isDelim c = false :=
  natToHex_forall (p := fun c => isDelim c = false) (by decide) n

theorem natToHex02_nondelim (n : Nat) : ∀ c ∈ natToHex02 n, isDelim c = false := by
  simp only [natToHex02]
  split
  · intro c hc
    rcases List.mem_cons.mp hc with rfl | hc
    · decide
    · exact natToHex_nondelim n c hc
  · exact natToHex_nondelim n

theorem hexNum_natToHex02 (n : Nat) : hexNum? (natToHex02 n) = some n := by
  simp only [natToHex02]
  split
  · rw [hexNum_eq _ (by simp), List.foldl_cons, show hexStep (some 0) '0' = some 0 by decide,
      ← hexNum_eq _ (natToHex_ne_nil n), hexNum_natToHex]
  · exact hexNum_natToHex n

theorem replaceTilde_tilde (cs : Text) : replaceTilde ('~' :: cs) = '~' :: '~' :: replaceTilde cs := rfl

theorem replaceTilde_ne {c : Char} (h : c ≠ '~') (cs : Text) : replaceTilde (c :: cs) = c :: replaceTilde cs := by
  simp only [replaceTilde, h, if_false, List.cons_append, List.nil_append]

theorem replaceTilde_append (a b : Text) : replaceTilde (a ++ b) = replaceTilde a ++ replaceTilde b := by
  induction a with
  | nil => rfl
  | cons x xs ih => simp only [List.cons_append, replaceTilde, ih, List.append_assoc]

theorem replaceTilde_of_no_tilde {l : Text} (h : ∀ c ∈ l, c ≠ '~') : replaceTilde l = l := by
  induction l with
  | nil => rfl
  | cons x xs ih =>
    rw [replaceTilde_ne (h x List.mem_cons_self), ih fun c hc => h c (List.mem_cons_of_mem _ hc)]

/-- What `schemeEscape` writes for one character. -/
def escChar (c : Char) : Text :=
  if c = '"' then cl!"\\\"" else if c = '\\' then cl!"\\\\"
  else if isControl c then cl!"\\x" ++ natToHex c.toNat ++ cl!";" else [c]

theorem schemeEscape_cons (c : Char) (cs : Text) : schemeEscape (c :: cs) = escChar c ++ schemeEscape cs := rfl

theorem escChar_tilde : escChar '~' = ['~'] := by decide

theorem escChar_no_tilde {c : Char} (h : c ≠ '~') : ∀ d ∈ escChar c, d ≠ '~' := by
  unfold escChar
  split
  · decide
  · split
    · decide
    · split
      · intro d hd
        simp only [List.mem_append] at hd
        rcases hd with (hd | hd) | hd
        · revert d; decide
        · exact natToHex_forall (p := (· ≠ '~')) (by decide) _ d hd
        · revert d; decide
      · intro d hd
        rw [List.mem_singleton.mp hd]
        exact h

namespace Scheme

def simpleEsc (e : Char) : Option Char :=
  if e = '\\' then some '\\' else if e = '"' then some '"' else if e = 'a' then some '\x07'
  else if e = 'b' then some '\x08' else if e = 'f' then some '\x0c' else if e = 'n' then some '\n'
  else if e = 'r' then some '\r' else if e = 't' then some '\t' else if e = 'v' then some '\x0b'
  else if e = '0' then some '\x00' else none

/-- `txt` is the inside of a string literal whose value is `val`. -/
inductive EscapesTo : Text → Text → Prop
  | nil : EscapesTo [] []
  | plain (c : Char) (t v : Text) : c ≠ '"' → c ≠ '\\' → EscapesTo t v → EscapesTo (c :: t) (c :: v)
  | esc (e r : Char) (t v : Text) : simpleEsc e = some r → EscapesTo t v → EscapesTo ('\\' :: e :: t) (r :: v)
  | hex (n : Nat) (t v : Text) : EscapesTo t v → EscapesTo ('\\' :: 'x' :: (natToHex n ++ ';' :: t)) (Char.ofNat n :: v)

theorem EscapesTo.append {a va b vb : Text} (ha : EscapesTo a va) (hb : EscapesTo b vb) : EscapesTo (a ++ b) (va ++ vb) := by
  induction ha with
  | nil => exact hb
  | plain c t v h1 h2 _ ih => exact .plain c _ _ h1 h2 ih
  | esc e r t v h _ ih => exact .esc e r _ _ h ih
  | hex n t v _ ih =>
    have := EscapesTo.hex n _ _ ih
    simpa [List.append_assoc] using this

theorem readStr_quote (fuel : Nat) (acc rest : Text) : readStr (fuel + 1) acc ('"' :: rest) = some (acc.reverse, rest) := by
  simp only [readStr, if_true]

theorem readStr_plain {c : Char} (h1 : c ≠ '"') (h2 : c ≠ '\\') (fuel : Nat) (acc rest : Text) :
    readStr (fuel + 1) acc (c :: rest) = readStr fuel (c :: acc) rest := by
  simp only [readStr, h1, h2, if_false]

/-- `simpleEsc` and the reader go down the same chain of ten characters. -/
theorem readStr_esc {e r : Char} (he : simpleEsc e = some r) (fuel : Nat) (acc rest : Text) :
    readStr (fuel + 1) acc ('\\' :: e :: rest) = readStr fuel (r :: acc) rest := by
  by_cases h1 : e = '\\'; · subst h1; cases he; rfl
  by_cases h2 : e = '"'; · subst h2; cases he; rfl
  by_cases h3 : e = 'a'; · subst h3; cases he; rfl
  by_cases h4 : e = 'b'; · subst h4; cases he; rfl
  by_cases h5 : e = 'f'; · subst h5; cases he; rfl
  by_cases h6 : e = 'n'; · subst h6; cases he; rfl
  by_cases h7 : e = 'r'; · subst h7; cases he; rfl
  by_cases h8 : e = 't'; · subst h8; cases he; rfl
  by_cases h9 : e = 'v'; · subst h9; cases he; rfl
  by_cases h10 : e = '0'; · subst h10; cases he; rfl
  simp [simpleEsc, h1, h2, h3, h4, h5, h6, h7, h8, h9, h10] at he

theorem readStr_hex (n fuel : Nat) (acc rest : Text) :
    readStr (fuel + 1) acc ('\\' :: 'x' :: (natToHex n ++ ';' :: rest)) = readStr fuel (Char.ofNat n :: acc) rest := by
  have hs := takeWhile_ne_append (natToHex n) rest (natToHex_forall (p := (· ≠ ';')) (by decide) n)
  simp only [readStr, Char.reduceEq, reduceIte]
  rw [hs.1, hs.2, hexNum_natToHex]

theorem readStr_escapesTo {txt val : Text} (h : EscapesTo txt val) : ∀ (acc rest : Text) (fuel : Nat), txt.length < fuel →
    readStr fuel acc (txt ++ '"' :: rest) = some (acc.reverse ++ val, rest) := by
  induction h with
  | nil =>
    intro acc rest fuel hf
    obtain ⟨f, rfl⟩ := Nat.exists_eq_add_one_of_ne_zero (Nat.ne_zero_of_lt hf)
    rw [List.nil_append, readStr_quote, List.append_nil]
  | plain c t v h1 h2 _ ih =>
    intro acc rest fuel hf
    obtain ⟨f, rfl⟩ := Nat.exists_eq_add_one_of_ne_zero (Nat.ne_zero_of_lt hf)
    rw [List.cons_append, readStr_plain h1 h2, ih _ _ _ (Nat.lt_of_succ_lt_succ hf)]
    simp
  | esc e r t v he _ ih =>
    intro acc rest fuel hf
    obtain ⟨f, rfl⟩ := Nat.exists_eq_add_one_of_ne_zero (Nat.ne_zero_of_lt hf)
    rw [List.cons_append, List.cons_append, readStr_esc he, ih _ _ _ (by simp at hf; omega)]
    simp
  | hex n t v _ ih =>
    intro acc rest fuel hf
    obtain ⟨f, rfl⟩ := Nat.exists_eq_add_one_of_ne_zero (Nat.ne_zero_of_lt hf)
    rw [List.cons_append, List.cons_append, List.append_assoc, List.cons_append, readStr_hex,
      ih _ _ _ (by simp at hf; omega)]
    simp

theorem escChar_escapesTo (c : Char) : EscapesTo (escChar c) [c] := by
  unfold escChar
  split
  · next h => subst h; exact .esc '"' '"' _ _ rfl .nil
  · split
    · next h => subst h; exact .esc '\\' '\\' _ _ rfl .nil
    · split
      · have := EscapesTo.hex c.toNat _ _ .nil
        simpa [Char.ofNat_toNat] using this
      · exact .plain c _ _ ‹_› ‹_› .nil

theorem schemeEscape_escapesTo (s : Text) : EscapesTo (schemeEscape s) s := by
  induction s with
  | nil => exact .nil
  | cons c cs ih => exact (escChar_escapesTo c).append ih

theorem read1_quoted {txt val : Text} (h : EscapesTo txt val) (rest : Text) (fuel : Nat) :
    read1 (fuel + 1) ('"' :: txt ++ '"' :: rest) = some (.str val, rest) := by
  have hws : isWs '"' = false := by decide
  simp only [read1, List.cons_append, hws, Bool.false_eq_true, if_false, Char.reduceEq, if_true]
  rw [readStr_escapesTo h [] rest _ (by simp; omega)]
  simp

end Scheme

/-- Escaping for a string literal neither creates nor removes tildes. -/
theorem replaceTilde_schemeEscape (s : Text) : replaceTilde (schemeEscape s) = schemeEscape (replaceTilde s) := by
  induction s with
  | nil => rfl
  | cons c cs ih =>
    rw [schemeEscape_cons, replaceTilde_append, ih]
    by_cases ht : c = '~'
    · subst ht
      rw [escChar_tilde, replaceTilde_tilde, replaceTilde_tilde, schemeEscape_cons, schemeEscape_cons, escChar_tilde]
      rfl
    · rw [replaceTilde_of_no_tilde (escChar_no_tilde ht), replaceTilde_ne ht, schemeEscape_cons]

theorem Scheme.escapes_template (s : Text) : Scheme.EscapesTo (templateEscape s) (replaceTilde s) := by
  rw [templateEscape, replaceTilde_schemeEscape]
  exact Scheme.schemeEscape_escapesTo _

end FV

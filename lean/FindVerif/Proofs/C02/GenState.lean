import FindVerif.Proofs.CompileInv
import FindVerif.Proofs.Read.Expr
/- The structured generator threads the manager exactly like the text generator: what `expr_aligned`
   says about the states.  Translation validity takes nothing else from the read-back (`Proofs/Read`). -/
namespace FV
open Scheme

theorem specialValue_isSome (v : FormatSpecial) : (specialValue v).isSome = (specialLiteral v).isSome := by
  cases v <;> rfl

theorem genExpr_state (clk : Nat → Nat) (e : Expr) (st : CState) :
    (genExpr clk e st).state = (compileExpr clk e st).state :=
  (expr_aligned clk e st).state_eq

theorem genExpr_step (clk : Nat → Nat) (e : Expr) (st st' : CState) (sx : SExp)
    (hi : Inv st.mgr) (h : genExpr clk e st = .ok (sx, st')) : Step st.mgr st'.mgr := by
  obtain ⟨txt, hc⟩ := CRes.state_eq_ok ((genExpr_state clk e st).symm.trans (congrArg CRes.state h))
  exact compileExpr_step clk e st st' txt hi hc

end FV

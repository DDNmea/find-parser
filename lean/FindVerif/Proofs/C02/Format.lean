import FindVerif.Proofs.C02.TestCode
import FindVerif.Proofs.CompileRun
import FindVerif.Proofs.Escape
/- `(format #f template args…)` as emitted prints exactly what the `-printf` elements name. -/
namespace FV
namespace Scheme
open Spec (File Rt Dest Output Outcome)

theorem fmtGo_char (rt : Rt) (c : Char) (hc : c ≠ '~') (rest : Text) (args : List Val) :
    fmtGo rt (c :: rest) args = (fmtGo rt rest args).map (c :: ·) := by
  rw [fmtGo.eq_def]; simp [hc]

theorem fmtGo_tilde (rt : Rt) (rest : Text) (args : List Val) :
    fmtGo rt ('~' :: '~' :: rest) args = (fmtGo rt rest args).map ('~' :: ·) := by
  rw [fmtGo.eq_def]; simp

theorem fmtGo_literal (rt : Rt) (s rest : Text) (args : List Val) :
    fmtGo rt (replaceTilde s ++ rest) args = (fmtGo rt rest args).map (s ++ ·) := by
  induction s with
  | nil => simp [replaceTilde]
  | cons c cs ih =>
    by_cases hc : c = '~'
    · subst hc
      rw [replaceTilde_tilde, List.cons_append, List.cons_append, fmtGo_tilde, ih]
      cases fmtGo rt rest args <;> rfl
    · rw [replaceTilde_ne hc, List.cons_append, fmtGo_char rt c hc, ih]
      cases fmtGo rt rest args <;> rfl

theorem fmtGo_directive (rt : Rt) (d : Char) (v : Val) (txt : Text) (h : directive rt d v = some txt)
    (rest : Text) (args : List Val) :
    fmtGo rt ('~' :: d :: rest) (v :: args) = (fmtGo rt rest args).map (txt ++ ·) := by
  have hd : d ≠ '~' := fun he => by subst he; cases h
  rw [fmtGo.eq_def]
  simp only [if_true, hd, if_false, h]
  cases fmtGo rt rest args <;> simp

theorem itemsS_cons (e : FormatElement) (es : List FormatElement) : itemsS (e :: es) = itemsS [e] ++ itemsS es := by
  simp only [itemsS, List.filterMap_cons, List.filterMap_nil]
  split <;> simp

/-- The arguments of the elements `es` evaluate purely (in front of any pure arguments that
    follow), and their piece `t` of the template, given those values, prints `a`. -/
def FmtOk (ap : CloAp) (cx : Ctx) (es : List FormatElement) (t a : Text) : Prop :=
  ∃ vs, (∀ rest vr, evalArgs ap cx [] rest = .ok vr [] → evalArgs ap cx [] (itemsS es ++ rest) = .ok (vs ++ vr) []) ∧
    ∀ restT restV, fmtGo cx.rt (t ++ restT) (vs ++ restV) = (fmtGo cx.rt restT restV).map (a ++ ·)

variable {ap : CloAp} {cx : Ctx}

theorem FmtOk.run {es : List FormatElement} {t a : Text} (h : FmtOk ap cx es t a) :
    ∃ vs, evalArgs ap cx [] (itemsS es) = .ok vs [] ∧ fmtGo cx.rt t vs = some a := by
  obtain ⟨vs, hvs, hf⟩ := h
  exact ⟨vs, by simpa using hvs [] [] evalArgs_nil, by simpa [fmtGo] using hf [] []⟩

theorem FmtOk.nil : FmtOk ap cx [] [] [] :=
  ⟨[], fun _ _ h => h, fun a b => by cases h : fmtGo cx.rt a b <;> simp [h]⟩

theorem FmtOk.cons {e : FormatElement} {es : List FormatElement} {t ts a as : Text}
    (h1 : FmtOk ap cx [e] t a) (h2 : FmtOk ap cx es ts as) : FmtOk ap cx (e :: es) (t ++ ts) (a ++ as) := by
  obtain ⟨ve, hve, hfe⟩ := h1
  obtain ⟨vs, hvs, hfs⟩ := h2
  refine ⟨ve ++ vs, fun rest vr hr => ?_, fun restT restV => ?_⟩
  · rw [itemsS_cons, List.append_assoc, List.append_assoc]
    exact hve _ _ (hvs rest vr hr)
  rw [List.append_assoc, List.append_assoc, hfe, hfs]
  cases fmtGo cx.rt restT restV <;> simp

theorem FmtOk.literal {e : FormatElement} {t s : Text} (hi : itemsS [e] = []) (ht : t = replaceTilde s) :
    FmtOk ap cx [e] t s :=
  ⟨[], fun _ _ h => hi ▸ h, fun _ _ => ht ▸ fmtGo_literal _ _ _ _⟩

theorem FmtOk.arg {f : FormatField} {sx : SExp} {d : Char} {v : Val} {a : Text} (hi : itemS f = some sx)
    (hev : eval ap cx [] sx = .ok v []) (hdir : directive cx.rt d v = some a) :
    FmtOk ap cx [.field f] ['~', d] a :=
  ⟨[v], fun _ _ h => by simpa [itemsS, hi] using evalArgs_cons_pure _ _ _ _ _ _ _ hev h,
    fun _ _ => fmtGo_directive _ d v a hdir _ _⟩

theorem Unshadowed.eval_strftime (h : Unshadowed cx []) (c : Char) (hc : c ≠ '@') {f : Text} {t : Nat}
    (hf : eval ap cx [] (call f []) = .ok (.int t) []) :
    eval ap cx [] (strftimeItem c f) = .ok (.str (cx.rt.strftime c t)) [] := by
  rw [strftimeItem, if_neg hc]
  exact h.prim2 rfl (eval_str _) (h.prim1 rfl hf rfl) rfl

theorem Unshadowed.eval_xattrOr (h : Unshadowed cx []) (a : Text) :
    eval ap cx [] (call (cl!"or") [call (cl!"xattr-ref-string") [.str a], .str []]) =
      .ok (.str ((Spec.xattrLookup cx.file.xattrs a).getD [])) [] := by
  rw [eval_or, evalOr, h.eval_xattrRef a, R.bind_ok_nil]
  cases Spec.xattrLookup cx.file.xattrs a <;> simp [Val.truthy, evalOr]

theorem elem_ok (h : Unshadowed cx []) (e : FormatElement) (t a : Text)
    (ht : elementValue e = .ok t) (ha : Spec.elementText cx.rt cx.file e = some a) : FmtOk ap cx [e] t a := by
  cases e with
  | literal s => cases ht; cases ha; exact .literal rfl rfl
  | special v =>
    cases v with
    | clear => cases ht
    | _ => cases ht; cases ha; exact .literal rfl rfl
  | field f =>
    cases f with
    | percent => cases ht; cases ha; exact .literal rfl rfl
    | depth | deviceNumber | fsType | symbolicTarget | permissionsSymbolic | typeSymlink | securityContext => cases ht
    | access | change | modify | diskSizeBlocks | groupId | hardlinks | inodeDecimal | mirrorCount | projectId
    | stripeCount | stripeSize | userId | diskSizeBytes
    | basename | group | user | fileId | name | nameWithoutStartingPoint | startingPoint =>
      cases ht; cases ha
      exact .arg rfl (h.prim0 rfl rfl) rfl
    | parents =>
      cases ht; cases ha
      exact .arg rfl (h.prim1 rfl (h.eval_builtin rfl) rfl) rfl
    | diskSizeKilos =>
      cases ht; cases ha
      exact .arg rfl (h.prim2 rfl (h.prim2 rfl (h.prim0 rfl rfl) (eval_num _) rfl) (eval_num _) rfl) rfl
    | permissionsOctal => cases ht; cases ha; exact .arg rfl (h.eval_logand _) rfl
    | sparseness =>
      cases ht
      have ha : (if cx.file.size = 0 then none else some (cx.rt.fmtFloat (512 * cx.file.blocks) cx.file.size)) = some a := ha
      split at ha
      · cases ha
      · cases ha
        exact .arg rfl (h.prim2 rfl (h.prim2 rfl (eval_num _) (h.prim0 rfl rfl) rfl) (h.prim0 rfl rfl) (if_neg ‹_›)) rfl
    | type => cases ht; cases ha; exact .arg rfl (h.prim1 rfl (h.prim0 rfl rfl) rfl) rfl
    | xattr x => cases ht; cases ha; exact .arg rfl (h.eval_xattrOr x) rfl
    | accessFormatted c | changeFormatted c | modifyFormatted c =>
      -- `placeholder` and `fieldText` branch on `c = '@'` alike
      simp only [elementValue, placeholder_accessFormatted, placeholder_changeFormatted, placeholder_modifyFormatted] at ht
      have ha : some (if c = '@' then _ else _) = some a := ha
      cases ht; cases ha
      by_cases hc : c = '@'
      · subst hc; exact .arg rfl (h.prim0 rfl rfl) rfl
      · simp only [if_neg hc]; exact .arg rfl (h.eval_strftime c hc (h.prim0 rfl rfl)) rfl

theorem templateValue_cons {e : FormatElement} {es : List FormatElement} {tmpl : Text}
    (h : templateValue (e :: es) = .ok tmpl) :
    ∃ t ts, elementValue e = .ok t ∧ templateValue es = .ok ts ∧ tmpl = t ++ ts := by
  simp only [templateValue] at h
  cases he : elementValue e <;> cases hes : templateValue es <;> simp_all

theorem formatText_cons {rt : Rt} {f : File} {e : FormatElement} {es : List FormatElement} {txt : Text}
    (h : Spec.formatText rt f (e :: es) = some txt) :
    ∃ a b, Spec.elementText rt f e = some a ∧ Spec.formatText rt f es = some b ∧ txt = a ++ b := by
  simp only [Spec.formatText] at h
  cases he : Spec.elementText rt f e <;> cases hes : Spec.formatText rt f es <;> simp_all

theorem format_fold (h : Unshadowed cx []) : ∀ (es : List FormatElement) (tmpl txt : Text),
    templateValue es = .ok tmpl → Spec.formatText cx.rt cx.file es = some txt → FmtOk ap cx es tmpl txt
  | [], tmpl, txt, ht, hs => by cases ht; cases hs; exact .nil
  | e :: es, tmpl, txt, ht, hs => by
    obtain ⟨t, ts, he, hes, rfl⟩ := templateValue_cons ht
    obtain ⟨a, b, ha, hb, rfl⟩ := formatText_cons hs
    exact (elem_ok h e t a he ha).cons (format_fold h es ts b hes hb)

theorem eval_genFormat (h : Unshadowed cx []) (es : List FormatElement) (sx : SExp) (txt : Text)
    (hgen : genFormat es = .ok sx) (hs : Spec.formatText cx.rt cx.file es = some txt) :
    eval ap cx [] sx = .ok (.str txt) [] := by
  simp only [genFormat] at hgen
  cases ht : templateValue es with
  | error x => rw [ht] at hgen; cases hgen
  | ok tmpl =>
    rw [ht] at hgen
    cases hgen
    obtain ⟨vs, hvs, hf⟩ := (format_fold (ap := ap) h es tmpl txt ht hs).run
    exact h.prim rfl (evalArgs_cons_pure _ _ _ _ _ _ _ (eval_bool _) (evalArgs_cons_pure _ _ _ _ _ _ _ (eval_str _) hvs))
      (by show (match fmtGo cx.rt tmpl vs with | some t => _ | none => _) = _; rw [hf])

end Scheme
end FV

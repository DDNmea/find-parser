import FindVerif.Proofs.C02.EvalBasic
/- `Agrees`: the result of evaluating a form is find's outcome — the same truth value, events that
   decode to the same outputs in the same order, the same stop request; where find's outcome is
   undefined (an unsupported node, `%S` of an empty file) anything agrees, which is why `Agrees.run`
   asks that it be defined.  For the body of a policy it says what `runPolicy` returns. -/
namespace FV
namespace Scheme
open Spec (File Rt Dest Output Outcome)

/-- The output a frame stands for. -/
def frameHead (io : Option (List (Nat × Target))) (payload : Text) (sep tag : Char) : Option Output :=
  if sep.toNat = 0x1e then
    match io with
    | some table =>
      match table.find? (fun kv => kv.1 = tag.toNat) with
      | some (_, .stdout t) => some ⟨.stdout, payload, t⟩
      | some (_, .file name t) => some ⟨.file name, payload, t⟩
      | none => none
    | none => none
  else none

theorem frameOut_eq (io : Option (List (Nat × Target))) (p : Text) (sep tag : Char) (rest : Option (List Output)) :
    frameOut io p sep tag rest = (frameHead io p sep tag).bind fun o => rest.map (o :: ·) := by
  unfold frameOut frameHead
  split
  · cases io with
    | none => rfl
    | some table =>
      dsimp only
      cases table.find? (fun kv => kv.1 = tag.toNat) with
      | none => rfl
      | some kv =>
        obtain ⟨_, t⟩ := kv
        cases t <;> cases rest <;> rfl
  · rfl

theorem char_toNat_ofNat (i : Nat) (h : i < 0xD800) : (Char.ofNat i).toNat = i := by
  have hv : i.isValidChar := Or.inl h
  simp [Char.ofNat, hv, Char.toNat, Char.ofNatAux]

theorem decode_record (io : Option (List (Nat × Target))) (d : Dest) (b : Text) (t : Option Char) (rest : List Event) :
    decode io (.record d b t :: rest) = (decode io rest).map (⟨d, b, t⟩ :: ·) :=
  decode.eq_2 ..

theorem decode_framed (io : Option (List (Nat × Target))) (p : Text) (sep tag : Char) (rest : List Event) :
    decode io (.raw .stdout p :: .raw .stdout [sep, tag] :: rest) =
      (frameHead io p sep tag).bind fun o => (decode io rest).map (o :: ·) := by
  rw [decode.eq_3, frameOut_eq]

theorem decode_append (io : Option (List (Nat × Target))) (a b : List Event) (x y : List Output)
    (ha : decode io a = some x) (hb : decode io b = some y) : decode io (a ++ b) = some (x ++ y) := by
  induction a using decode.induct generalizing x with
  | case1 => cases ha; exact hb
  | case2 d bytes t rest ih =>
    rw [decode_record] at ha
    obtain ⟨xs, hr, rfl⟩ := Option.map_eq_some_iff.mp ha
    rw [List.cons_append, decode_record, ih xs hr]
    rfl
  | case3 payload sep tag rest ih =>
    rw [decode_framed] at ha
    obtain ⟨o, ho, ha⟩ := Option.bind_eq_some_iff.mp ha
    obtain ⟨xs, hr, rfl⟩ := Option.map_eq_some_iff.mp ha
    rw [List.cons_append, List.cons_append, decode_framed, ho, ih xs hr]
    rfl
  | case4 t h1 h2 h3 =>
    -- `decode`'s last clause: neither empty, nor a record, nor a framed pair in front, so `none`
    rw [decode.eq_4 _ _ h1 h2 h3] at ha
    cases ha

def Agrees (io : Option (List (Nat × Target))) (r : R Val) (o : Outcome) : Prop :=
  match o with
  | .done b outs => ∃ v evs, r = .ok v evs ∧ v.truthy = b ∧ decode io evs = some outs
  | .stopped outs => ∃ evs, r = .stop evs ∧ decode io evs = some outs
  | .undefined => True

theorem Agrees.pure {io : Option (List (Nat × Target))} {r : R Val} {v : Val} {b : Bool}
    (h : r = .ok v []) (hb : v.truthy = b) : Agrees io r (.done b []) :=
  ⟨v, [], h, hb, by simp [decode]⟩

theorem Agrees.bool {io : Option (List (Nat × Target))} {r : R Val} {b : Bool} (h : r = .ok (.bool b) []) :
    Agrees io r (.done b []) :=
  Agrees.pure h (truthy_bool b)

theorem Agrees.single {io : Option (List (Nat × Target))} {r : R Val} {evs : List Event} {o : Output}
    (h : r = .ok .unspec evs) (hd : decode io evs = some [o]) : Agrees io r (.done true [o]) :=
  ⟨.unspec, evs, h, rfl, hd⟩

theorem Agrees.prepend {io : Option (List (Nat × Target))} {r : R Val} {o : Outcome} {v : Val} {ev : List Event} {outs : List Output}
    (hd : decode io ev = some outs) (h : Agrees io r o) :
    Agrees io ((R.ok v ev).bind fun _ => r) (o.prepend outs) := by
  cases o with
  | undefined => trivial
  | done b o2 =>
    obtain ⟨v2, ev2, rfl, hb, hd2⟩ := h
    exact ⟨v2, ev ++ ev2, rfl, hb, decode_append io ev ev2 outs o2 hd hd2⟩
  | stopped o2 =>
    obtain ⟨ev2, rfl, hd2⟩ := h
    exact ⟨ev ++ ev2, rfl, decode_append io ev ev2 outs o2 hd hd2⟩

theorem Agrees.not_ {io : Option (List (Nat × Target))} {r : R Val} {o : Outcome} (h : Agrees io r o) :
    Agrees io (r.bind fun v => .ok (.bool (!v.truthy)) [])
      o.negate := by
  cases o with
  | undefined => trivial
  | done b outs =>
    obtain ⟨v, evs, rfl, hb, hd⟩ := h
    exact ⟨.bool (!v.truthy), evs, by simp [R.bind], by rw [truthy_bool, hb], hd⟩
  | stopped outs =>
    obtain ⟨evs, rfl, hd⟩ := h
    exact ⟨evs, rfl, hd⟩

/-- `(and a b)` is find's AND (and find's `,` as the project treats it). -/
theorem Agrees.and_ {io : Option (List (Nat × Target))} {ra rb : R Val} {oa ob : Outcome}
    (ha : Agrees io ra oa) (hb : Agrees io rb ob) :
    Agrees io (ra.bind fun v => if v.truthy then rb else .ok v [])
      (oa.andThen ob) := by
  cases oa with
  | undefined => trivial
  | stopped outs => obtain ⟨evs, rfl, hd⟩ := ha; exact ⟨evs, rfl, hd⟩
  | done b outs =>
    obtain ⟨v, evs, rfl, hv, hd⟩ := ha
    cases b with
    | true =>
      have := Agrees.prepend (v := v) hd hb
      simpa [R.bind, hv, Outcome.andThen] using this
    | false => exact ⟨v, evs, by simp [R.bind, hv], hv, hd⟩

theorem Agrees.or_ {io : Option (List (Nat × Target))} {ra rb : R Val} {oa ob : Outcome}
    (ha : Agrees io ra oa) (hb : Agrees io rb ob) :
    Agrees io (ra.bind fun v => if v.truthy then .ok v [] else rb)
      (oa.orElse ob) := by
  cases oa with
  | undefined => trivial
  | stopped outs => obtain ⟨evs, rfl, hd⟩ := ha; exact ⟨evs, rfl, hd⟩
  | done b outs =>
    obtain ⟨v, evs, rfl, hv, hd⟩ := ha
    cases b with
    | false =>
      have := Agrees.prepend (v := v) hd hb
      simpa [R.bind, hv, Outcome.orElse] using this
    | true => exact ⟨v, evs, by simp [R.bind, hv], hv, hd⟩

theorem Agrees.run {rt : Rt} {file : File} {io : Option (List (Nat × Target))} {bindings : List (Text × SExp)} {body : SExp}
    {env : List (Text × Val)} {o : Outcome} (henv : evalBindings rt file bindings [] = .ok env)
    (h : Agrees io (eval (apN closureDepth) { rt := rt, file := file, env := env } [] body) o) (hdef : o ≠ .undefined) :
    runPolicy rt file io bindings body = .outcome o := by
  simp only [runPolicy, henv]
  cases o with
  | undefined => exact absurd rfl hdef
  | done b outs => obtain ⟨v, evs, hev, hb, hd⟩ := h; simp only [hev, hd, hb]
  | stopped outs => obtain ⟨evs, hev, hd⟩ := h; simp only [hev, hd]

end Scheme
end FV

import FindVerif.Proofs.C02.Bindings
/- Applying the generated closures: a matcher to a candidate string; in framed mode a printer to
   a line, which hands the line and its tag to the frame procedure, which writes the payload and
   then separator + tag to the shared port. -/
namespace FV
namespace Scheme
open Spec (File Rt Dest Output Outcome)

theorem isPattern_eq (s : Text) : isPattern s = Spec.hasGlob s := by
  simp only [isPattern, Spec.hasGlob, containsChar, any_or]

theorem eval_matcherBody (ap : CloAp) (cx : Ctx) (hg : EnvGen cx.env) (i : Nat) (pat : Text) (ci : Bool) (cand : Text) :
    eval ap cx [(lf3 (cl!"str") i, .str cand)] (matcherBody i pat ci) =
      .ok (.bool (Spec.nameHolds cx.rt ci pat cand)) [] := by
  have h : Unshadowed cx [(lf3 (cl!"str") i, .str cand)] :=
    ⟨hg, by intro n v hm; simp at hm; rw [hm.1]; exact lf3_head _ _⟩
  have hc : eval ap cx [(lf3 (cl!"str") i, .str cand)] (sy (lf3 (cl!"str") i)) = .ok (.str cand) [] :=
    eval_sym (by simp [lookup])
  unfold matcherBody
  simp only [Spec.nameHolds, ← isPattern_eq, matcherName]
  cases isPattern pat <;> cases ci <;> exact h.prim2 rfl (eval_str _) hc rfl

/-- The three bindings every framed program starts with. -/
def E3 : List (Text × Val) :=
  [(cl!"%lf3:port:0", .port .stdout), (cl!"%lf3:mutex:1", .mutex 1),
   (cl!"%lf3:frame:2", .clo [cl!"s", cl!"d"] [frameBody] 2)]

theorem envOf_distInit : envOf Manager.distInit.vars = E3 := rfl

/-- The body is a closed program in a closed environment (the first two bindings), so it runs. -/
theorem apply_frame (n : Nat) (cx : Ctx) (henv : cx.env.take 2 = E3.take 2) (s : Text) (i : Nat) :
    apN (n + 1) cx [cl!"s", cl!"d"] [frameBody] 2 [.str s, .chr i] =
      .ok .unspec [.raw .stdout s, .raw .stdout [Char.ofNat 0x1e, Char.ofNat i]] := by
  simp only [apN, henv]
  rfl

/-- The printer sees the environment of the bindings before it, in which the frame procedure sees that
    of the first two. -/
theorem apply_framed_printer (n : Nat) (cx : Ctx) (e post : List Binding)
    (henv : cx.env = envOf (Manager.distInit.vars ++ e ++ post))
    (hn : ((Manager.distInit.vars ++ e ++ post).map Binding.binds).Nodup) (i : Nat) (s : Text) :
    apN (n + 2) cx [cl!"line"] [frameCall i] (Manager.distInit.vars ++ e).length [.str s] =
      .ok .unspec [.raw .stdout s, .raw .stdout [Char.ofNat 0x1e, Char.ofNat i]] := by
  have htake : cx.env.take (Manager.distInit.vars ++ e).length = envOf (Manager.distInit.vars ++ e) :=
    henv ▸ envOf_take _ post
  -- `Manager.distInit.vars` is port, mutex, frame procedure: the lists are split at the frame procedure
  have hframe : (lookup [(cl!"line", Val.str s)] (cl!"%lf3:frame:2")).or
      (lookup (envOf (Manager.distInit.vars ++ e)) (cl!"%lf3:frame:2")) = some (.clo [cl!"s", cl!"d"] [frameBody] 2) :=
    lookup_envOf [.stdoutPort 0, .mutex 1] e .frame (List.nodup_append.mp (List.map_append ▸ hn)).1
  show eval (apN (n + 1)) { cx with env := cx.env.take _ } [(cl!"line", .str s)] (frameCall i) = _
  rw [htake]
  refine (eval_call_bound rfl hframe (evalArgs_two (eval_sym rfl) (eval_chr _))).trans ?_
  exact apply_frame n _ (envOf_take [.stdoutPort 0, .mutex 1] (.frame :: e)) s i

end Scheme
end FV

import FindVerif.Spec.Scheme.Eval
import FindVerif.Model.GenS
/- Basic facts about the evaluator, and the one rule by which every call of a runtime procedure in
   generated code is evaluated, `Unshadowed.prim` (`prim_bind` is the form for arguments that may write). -/
namespace FV
namespace Scheme
open Spec (File Rt Dest Output Outcome)

@[simp] theorem R.bind_ok_nil {α β : Type} (a : α) (k : α → R β) :
    (R.ok a []).bind k = k a := by
  simp only [R.bind]
  cases k a <;> simp

theorem R.bind_ok {α β : Type} (a : α) (ev : List Event) (k : α → R β) :
    (R.ok a ev).bind k = match k a with
      | .ok b ev' => .ok b (ev ++ ev')
      | .stop ev' => .stop (ev ++ ev')
      | .fail w => .fail w := rfl

@[simp] theorem R.bind_stop {α β : Type} (ev : List Event) (k : α → R β) : (R.stop ev : R α).bind k = .stop ev := rfl
@[simp] theorem R.bind_fail {α β : Type} (w : String) (k : α → R β) : (R.fail w : R α).bind k = .fail w := rfl

theorem truthy_bool (x : Bool) : (Val.bool x).truthy = x := by cases x <;> rfl

def EnvGen (env : List (Text × Val)) : Prop := ∀ n v, (n, v) ∈ env → n.head? = some '%'

theorem envGen_nil : EnvGen ([] : List (Text × Val)) := by intro n v h; simp at h

theorem lookup_none_of_notMem (env : List (Text × Val)) (x : Text) (h : ∀ n v, (n, v) ∈ env → n ≠ x) :
    lookup env x = none := by
  induction env with
  | nil => rfl
  | cons a rest ih =>
    obtain ⟨n, v⟩ := a
    simp only [lookup]
    rw [ih (fun n' v' hm => h n' v' (by simp [hm]))]
    simp [h n v (by simp)]

theorem lookup_none_of_gen {env : List (Text × Val)} (hg : EnvGen env) (x : Text) (hx : x.head? ≠ some '%') :
    lookup env x = none :=
  lookup_none_of_notMem env x fun n v hm he => hx (he ▸ hg n v hm)

theorem EnvGen.take {env : List (Text × Val)} (hg : EnvGen env) (k : Nat) : EnvGen (env.take k) :=
  fun n v hm => hg n v (List.mem_of_mem_take hm)

theorem lookup_append_single (env : List (Text × Val)) (n : Text) (v : Val) (x : Text) :
    lookup (env ++ [(n, v)]) x = if n = x then some v else lookup env x := by
  induction env with
  | nil => simp [lookup]
  | cons a rest ih =>
    obtain ⟨n', v'⟩ := a
    simp only [List.cons_append, lookup, ih]
    by_cases h : n = x <;> simp [h]

theorem lookup_append_fresh (env extra : List (Text × Val)) (x : Text) (h : ∀ n v, (n, v) ∈ extra → n ≠ x) :
    lookup (env ++ extra) x = lookup env x := by
  induction env with
  | nil => simp [lookup, lookup_none_of_notMem extra x h]
  | cons a rest ih =>
    obtain ⟨n, v⟩ := a
    simp only [List.cons_append, lookup, ih]

theorem lookup_of_split (pre post : List (Text × Val)) (n : Text) (v : Val)
    (hpost : ∀ n' v', (n', v') ∈ post → n' ≠ n) : lookup (pre ++ (n, v) :: post) n = some v := by
  have : pre ++ (n, v) :: post = (pre ++ [(n, v)]) ++ post := by simp
  rw [this, lookup_append_fresh _ _ _ hpost, lookup_append_single]
  simp

variable {ap : CloAp} {cx : Ctx} {loc : List (Text × Val)}

@[simp] theorem eval_num (n : Nat) : eval ap cx loc (.num n) = .ok (.int n) [] := by simp [eval]
@[simp] theorem eval_str (s : Text) : eval ap cx loc (.str s) = .ok (.str s) [] := by simp [eval]
@[simp] theorem eval_chr (c : Nat) : eval ap cx loc (.chr c) = .ok (.chr c) [] := by simp [eval]
@[simp] theorem eval_bool (b : Bool) : eval ap cx loc (.bool b) = .ok (.bool b) [] := by simp [eval]

theorem varRef_bound {x : Text} {v : Val} (h : (lookup loc x).or (lookup cx.env x) = some v) :
    varRef cx loc x = some v := by
  cases hl : lookup loc x <;> simp_all [varRef]

theorem eval_sym {x : Text} {v : Val} (h : (lookup loc x).or (lookup cx.env x) = some v) :
    eval ap cx loc (sy x) = .ok v [] := by
  simp [sy, eval, varRef_bound h]

@[simp] theorem evalArgs_nil : evalArgs ap cx loc [] = .ok [] [] := by
  simp [evalArgs]

theorem evalArgs_cons_pure (ap : CloAp) (cx : Ctx) (loc : List (Text × Val)) (x : SExp) (xs : List SExp) (v : Val) (vs : List Val)
    (h1 : eval ap cx loc x = .ok v []) (h2 : evalArgs ap cx loc xs = .ok vs []) :
    evalArgs ap cx loc (x :: xs) = .ok (v :: vs) [] := by
  simp [evalArgs, h1, h2]

theorem evalArgs_one {a : SExp} {va : Val} (h1 : eval ap cx loc a = .ok va []) :
    evalArgs ap cx loc [a] = .ok [va] [] :=
  evalArgs_cons_pure _ _ _ _ _ _ _ h1 evalArgs_nil

theorem evalArgs_two {a b : SExp} {va vb : Val} (h1 : eval ap cx loc a = .ok va []) (h2 : eval ap cx loc b = .ok vb []) :
    evalArgs ap cx loc [a, b] = .ok [va, vb] [] :=
  evalArgs_cons_pure _ _ _ _ _ _ _ h1 (evalArgs_one h2)

theorem eval_call (f : Text) (args : List SExp) :
    eval ap cx loc (call f args) =
      if f = cl!"and" then evalAnd ap cx loc args
      else if f = cl!"or" then evalOr ap cx loc args
      else if f = cl!"lambda" then mkLambda cx args
      else if f = cl!"with-mutex" then
        if args.isEmpty then .fail "with-mutex: bad form" else evalSeq ap cx loc args
      else
        match varRef cx loc f with
        | some g => (evalArgs ap cx loc args).bind fun vs => applyVal ap cx g vs
        | none => .fail ("unbound variable " ++ String.ofList f) :=
  eval.eq_7 ..

theorem eval_and2 (a b : SExp) :
    eval ap cx loc (call (cl!"and") [a, b]) =
      (eval ap cx loc a).bind fun v => if v.truthy then eval ap cx loc b else .ok v [] := by
  rw [eval_call]
  simp [evalAnd]

theorem eval_or (args : List SExp) : eval ap cx loc (call (cl!"or") args) = evalOr ap cx loc args := by
  rw [eval_call]
  simp only [show ¬ (cl!"or" = cl!"and") by decide, if_false, if_true]

theorem eval_or2 (a b : SExp) :
    eval ap cx loc (call (cl!"or") [a, b]) =
      (eval ap cx loc a).bind fun v => if v.truthy then .ok v [] else eval ap cx loc b := by
  rw [eval_or]
  simp [evalOr]

theorem eval_lambda {ps : List SExp} {names : List Text} (body : SExp) (hp : paramNames ps = some names) :
    eval ap cx loc (call (cl!"lambda") [.list ps, body]) = .ok (.clo names [body] cx.env.length) [] := by
  rw [eval_call]
  simp [mkLambda, hp]

def specialForms : List Text := [cl!"and", cl!"or", cl!"lambda", cl!"with-mutex"]

theorem eval_app {f : Text} {g : Val} (hk : f ∉ specialForms) (hv : varRef cx loc f = some g) (args : List SExp) :
    eval ap cx loc (call f args) = (evalArgs ap cx loc args).bind (applyVal ap cx g) := by
  simp only [specialForms, List.mem_cons, List.not_mem_nil, or_false, not_or] at hk
  rw [eval_call]
  simp only [hk.1, hk.2.1, hk.2.2.1, hk.2.2.2, if_false, hv]

theorem eval_call_bound {f : Text} {g : Val} {args : List SExp} {vs : List Val} (hf : f.head? = some '%')
    (hl : (lookup loc f).or (lookup cx.env f) = some g) (hargs : evalArgs ap cx loc args = .ok vs []) :
    eval ap cx loc (call f args) = applyVal ap cx g vs := by
  have hk : ∀ k ∈ specialForms, k.head? ≠ some '%' := by decide
  rw [eval_app (fun hm => hk f hm hf) (varRef_bound hl), hargs, R.bind_ok_nil]

theorem primOf_name {f : Text} {p : Prim} (h : primOf f = some p) : f.head? ≠ some '%' ∧ f ∉ specialForms := by
  have table : ∀ kv ∈ primTable, kv.1.head? ≠ some '%' ∧ kv.1 ∉ specialForms := by decide +kernel
  unfold primOf at h
  cases hf : primTable.find? (fun kv => kv.1 = f) with
  | none => rw [hf] at h; cases h
  | some kv =>
    have := table kv (List.mem_of_find?_eq_some hf)
    have hk := List.find?_some hf
    rwa [of_decide_eq_true hk] at this

/-- Every name in scope is a generated one, so no runtime procedure is shadowed. -/
structure Unshadowed (cx : Ctx) (loc : List (Text × Val)) : Prop where
  env : EnvGen cx.env
  loc : EnvGen loc

theorem Unshadowed.varRef (h : Unshadowed cx loc) {f : Text} {p : Prim} (hp : primOf f = some p) :
    varRef cx loc f = some (.builtin f) := by
  have hx := (primOf_name hp).1
  simp [Scheme.varRef, lookup_none_of_gen h.loc f hx, lookup_none_of_gen h.env f hx, hp]

theorem Unshadowed.eval_builtin (h : Unshadowed cx loc) {f : Text} {p : Prim} (hp : primOf f = some p) :
    eval ap cx loc (sy f) = .ok (.builtin f) [] := by
  simp [sy, eval, h.varRef hp]

theorem applyVal_builtin (ap : CloAp) (cx : Ctx) {f : Text} {p : Prim} (hp : primOf f = some p) (vs : List Val) :
    applyVal ap cx (.builtin f) vs = applyPrim cx (apvHO ap cx) p vs := by
  simp [applyVal, hp]

theorem Unshadowed.prim_bind (h : Unshadowed cx loc) {f : Text} {p : Prim} (hp : primOf f = some p) (args : List SExp) :
    eval ap cx loc (call f args) = (evalArgs ap cx loc args).bind (applyPrim cx (apvHO ap cx) p) := by
  rw [eval_app (primOf_name hp).2 (h.varRef hp)]
  exact congrArg _ (funext (applyVal_builtin ap cx hp))

/-- At a call site `hp` is `rfl` (the name is looked up in `primTable`) and `hr` is `rfl` or the fact
    about `applyPrim` that the clause needs. -/
theorem Unshadowed.prim (h : Unshadowed cx loc) {f : Text} {p : Prim} {args : List SExp} {vs : List Val} {r : R Val}
    (hp : primOf f = some p) (hargs : evalArgs ap cx loc args = .ok vs [])
    (hr : applyPrim cx (apvHO ap cx) p vs = r) : eval ap cx loc (call f args) = r := by
  rw [h.prim_bind hp, hargs, R.bind_ok_nil, hr]

theorem Unshadowed.prim0 (h : Unshadowed cx loc) {f : Text} {p : Prim} {r : R Val}
    (hp : primOf f = some p) (hr : applyPrim cx (apvHO ap cx) p [] = r) : eval ap cx loc (call f []) = r :=
  h.prim hp evalArgs_nil hr

theorem Unshadowed.prim1 (h : Unshadowed cx loc) {f : Text} {p : Prim} {a : SExp} {va : Val} {r : R Val}
    (hp : primOf f = some p) (ha : eval ap cx loc a = .ok va [])
    (hr : applyPrim cx (apvHO ap cx) p [va] = r) : eval ap cx loc (call f [a]) = r :=
  h.prim hp (evalArgs_one ha) hr

theorem Unshadowed.prim2 (h : Unshadowed cx loc) {f : Text} {p : Prim} {a b : SExp} {va vb : Val} {r : R Val}
    (hp : primOf f = some p) (ha : eval ap cx loc a = .ok va []) (hb : eval ap cx loc b = .ok vb [])
    (hr : applyPrim cx (apvHO ap cx) p [va, vb] = r) : eval ap cx loc (call f [a, b]) = r :=
  h.prim hp (evalArgs_two ha hb) hr

theorem Unshadowed.eval_not (h : Unshadowed cx loc) (a : SExp) :
    eval ap cx loc (call (cl!"not") [a]) = (eval ap cx loc a).bind fun v => .ok (.bool (!v.truthy)) [] := by
  have hn : ∀ v, applyPrim cx (apvHO ap cx) .not [v] = .ok (.bool (!v.truthy)) [] := fun _ => rfl
  rw [h.prim_bind rfl, evalArgs]
  cases eval ap cx loc a <;> simp [R.bind, hn]

end Scheme
end FV

import FindVerif.Proofs.C02.EvalBasic
import FindVerif.Proofs.Manager
/-
  The environment the `let*` bindings of a compiled program build: every generated name resolves
  to the value of the binding that introduced it.
-/
namespace FV
namespace Scheme
open Spec (File Rt Dest Output Outcome)

/-- The terminator a `make-printer` call receives: `termS` emits the low byte of the character
    (`terminator_escape`: `value as u8`). -/
def termV : Option Char → Option Char
  | none => none
  | some c => some (Char.ofNat (c.toNat % 256))

def frameCall (i : Nat) : SExp := call (cl!"%lf3:frame:2") [sy (cl!"line"), .chr i]

def bindingValue (env : List (Text × Val)) : Binding → Val
  | .stdoutPort _ => .port .stdout
  | .filePort _ f => .port (.file f)
  | .mutex _ => .mutex env.length
  | .printerL _ prt mtx t =>
    match lookup env (lf3 (cl!"port") prt), lookup env (lf3 (cl!"mutex") mtx) with
    | some (.port d), some (.mutex k) => .printer d k (termV t)
    | _, _ => .unspec
  | .printerD i => .clo [cl!"line"] [frameCall i] env.length
  | .matcher i pat ci => .clo [lf3 (cl!"str") i] [matcherBody i pat ci] env.length
  | .frame => .clo [cl!"s", cl!"d"] [frameBody] env.length

theorem sexp_name (b : Binding) : b.sexp.1 = b.binds.text := by
  cases b with
  | frame => decide  -- the one generated name that the model writes out as a literal
  | _ => rfl

def envFrom (env : List (Text × Val)) : List Binding → List (Text × Val)
  | [] => env
  | b :: bs => envFrom (env ++ [(b.binds.text, bindingValue env b)]) bs

theorem envFrom_append (env : List (Text × Val)) (a b : List Binding) :
    envFrom env (a ++ b) = envFrom (envFrom env a) b := by
  induction a generalizing env with
  | nil => rfl
  | cons x xs ih => simp [envFrom, ih]

theorem envFrom_ext (env : List (Text × Val)) (bs : List Binding) :
    ∃ ext, envFrom env bs = env ++ ext ∧ ext.map Prod.fst = bs.map (fun b => b.binds.text) := by
  induction bs generalizing env with
  | nil => exact ⟨[], by simp [envFrom]⟩
  | cons x xs ih =>
    obtain ⟨ext, h1, h2⟩ := ih (env ++ [(x.binds.text, bindingValue env x)])
    exact ⟨(x.binds.text, bindingValue env x) :: ext, by simp [envFrom, h1], by simp [h2]⟩

theorem envFrom_length (env : List (Text × Val)) (bs : List Binding) : (envFrom env bs).length = env.length + bs.length := by
  obtain ⟨ext, h1, h2⟩ := envFrom_ext env bs
  rw [h1, List.length_append, ← List.length_map (as := ext) (f := Prod.fst), h2, List.length_map]

theorem envFrom_gen (env : List (Text × Val)) (bs : List Binding) (h : EnvGen env) : EnvGen (envFrom env bs) := by
  induction bs generalizing env with
  | nil => exact h
  | cons x xs ih =>
    apply ih
    intro n v hm
    simp at hm
    rcases hm with hm | ⟨rfl, _⟩
    · exact h n v hm
    · exact gname_head _

def envOf (vars : List Binding) : List (Text × Val) := envFrom [] vars

theorem envOf_gen (vars : List Binding) : EnvGen (envOf vars) := envFrom_gen [] vars envGen_nil

theorem envOf_length (vars : List Binding) : (envOf vars).length = vars.length :=
  (envFrom_length [] vars).trans (Nat.zero_add _)

theorem lookup_envOf_prefix (pre post : List Binding) (x : Text)
    (hfresh : ∀ c ∈ post, c.binds.text ≠ x) : lookup (envOf (pre ++ post)) x = lookup (envOf pre) x := by
  unfold envOf
  rw [envFrom_append]
  obtain ⟨ext, h1, h2⟩ := envFrom_ext (envFrom [] pre) post
  rw [h1, lookup_append_fresh]
  intro n v hm he
  have hn' : n ∈ post.map (fun c => c.binds.text) := by rw [← h2]; exact List.mem_map_of_mem (f := Prod.fst) hm
  obtain ⟨c, hc, rfl⟩ := List.mem_map.mp hn'
  exact hfresh c hc he

theorem envOf_snoc (pre : List Binding) (b : Binding) :
    envOf (pre ++ [b]) = envOf pre ++ [(b.binds.text, bindingValue (envOf pre) b)] := by
  unfold envOf
  rw [envFrom_append]
  rfl

theorem lookup_envOf (pre post : List Binding) (b : Binding)
    (hn : ((pre ++ b :: post).map Binding.binds).Nodup) :
    lookup (envOf (pre ++ b :: post)) b.binds.text = some (bindingValue (envOf pre) b) := by
  have hfresh : ∀ c ∈ post, c.binds.text ≠ b.binds.text := fun c hc he => by
    rw [List.map_append, List.map_cons] at hn
    exact (List.nodup_cons.mp (List.nodup_append.mp hn).2.1).1 (GName.text_injective _ _ he ▸ List.mem_map_of_mem hc)
  rw [List.append_cons, lookup_envOf_prefix _ _ _ hfresh, envOf_snoc, lookup_append_single, if_pos rfl]

/-- What a closure made by the binding after `pre` sees. -/
theorem envOf_take (pre post : List Binding) : (envOf (pre ++ post)).take pre.length = envOf pre := by
  obtain ⟨ext, h, _⟩ := envFrom_ext (envOf pre) post
  rw [envOf, envFrom_append, ← envOf, h]
  exact List.take_left' (envOf_length pre)

theorem lookup_envOf_mem {vars : List Binding} (hn : (vars.map Binding.binds).Nodup) {b : Binding} (hb : b ∈ vars) :
    ∃ pre, lookup (envOf vars) b.binds.text = some (bindingValue (envOf pre) b) := by
  obtain ⟨pre, post, rfl⟩ := List.append_of_mem hb
  exact ⟨pre, lookup_envOf pre post b hn⟩

theorem port_lookup (pre : List Binding) (prt : Nat) (hn : (pre.map Binding.binds).Nodup)
    (hm : (⟨.port, prt⟩ : GName) ∈ pre.map Binding.binds) :
    ∃ d, lookup (envOf pre) (lf3 (cl!"port") prt) = some (.port d) ∧
      ((Binding.stdoutPort prt ∈ pre ∧ d = .stdout) ∨ ∃ f, Binding.filePort prt f ∈ pre ∧ d = .file f) := by
  obtain ⟨c, hc, hb⟩ := List.mem_map.mp hm
  obtain ⟨_, hl⟩ := lookup_envOf_mem hn hc
  rw [hb] at hl
  cases c <;> simp [Binding.binds] at hb
  · subst hb; exact ⟨.stdout, hl, .inl ⟨hc, rfl⟩⟩
  · subst hb; exact ⟨.file _, hl, .inr ⟨_, hc, rfl⟩⟩

theorem mutex_lookup (pre : List Binding) (mtx : Nat) (hn : (pre.map Binding.binds).Nodup)
    (hm : (⟨.mutex, mtx⟩ : GName) ∈ pre.map Binding.binds) :
    ∃ k, lookup (envOf pre) (lf3 (cl!"mutex") mtx) = some (.mutex k) := by
  obtain ⟨c, hc, hb⟩ := List.mem_map.mp hm
  obtain ⟨_, hl⟩ := lookup_envOf_mem hn hc
  rw [hb] at hl
  cases c <;> simp [Binding.binds] at hb
  subst hb; exact ⟨_, hl⟩

theorem bindingValue_printerL (pre : List Binding) (i prt mtx : Nat) (t : Option Char)
    (hn : (pre.map Binding.binds).Nodup)
    (hu : ∀ u ∈ (Binding.printerL i prt mtx t).uses, u ∈ pre.map Binding.binds) :
    ∃ d k, lookup (envOf pre) (lf3 (cl!"port") prt) = some (.port d) ∧
      lookup (envOf pre) (lf3 (cl!"mutex") mtx) = some (.mutex k) ∧
      bindingValue (envOf pre) (.printerL i prt mtx t) = .printer d k (termV t) ∧
      ((Binding.stdoutPort prt ∈ pre ∧ d = .stdout) ∨ ∃ f, Binding.filePort prt f ∈ pre ∧ d = .file f) := by
  obtain ⟨d, hd, hwhich⟩ := port_lookup pre prt hn (hu _ (by simp [Binding.uses]))
  obtain ⟨k, hk⟩ := mutex_lookup pre mtx hn (hu _ (by simp [Binding.uses]))
  exact ⟨d, k, hd, hk, by simp only [bindingValue, hd, hk], hwhich⟩

theorem eval_binding (ap : CloAp) (cx : Ctx) (pre : List Binding) (he : cx.env = envOf pre) (b : Binding)
    (hn : (pre.map Binding.binds).Nodup) (hu : ∀ u ∈ b.uses, u ∈ pre.map Binding.binds) :
    eval ap cx [] b.sexp.2 = .ok (bindingValue cx.env b) [] := by
  have h : Unshadowed cx [] := ⟨he ▸ envOf_gen pre, envGen_nil⟩
  cases b with
  | stdoutPort i => exact h.prim0 rfl rfl
  | filePort i f => exact h.prim2 rfl (eval_str _) (eval_str _) rfl
  | mutex i => exact h.prim0 rfl rfl
  | printerL i prt mtx t =>
    obtain ⟨d, k, hd, hk, hv, _⟩ := bindingValue_printerL pre i prt mtx t hn hu
    rw [← he] at hd hk hv
    have args : ∀ {x v}, eval ap cx [] x = .ok v [] →
        evalArgs ap cx [] [sy (lf3 (cl!"port") prt), sy (lf3 (cl!"mutex") mtx), x] = .ok [.port d, .mutex k, v] [] :=
      fun hx => evalArgs_cons_pure _ _ _ _ _ _ _ (eval_sym hd) (evalArgs_two (eval_sym hk) hx)
    rw [hv]
    cases t
    · exact h.prim rfl (args (eval_bool _)) rfl
    · exact h.prim rfl (args (eval_chr _)) rfl
  | printerD i => exact eval_lambda _ rfl
  | matcher i pat ci => exact eval_lambda _ rfl
  | frame => exact eval_lambda _ rfl

theorem evalBindings_envOf (rt : Rt) (file : File) (pre post : List Binding)
    (hn : ((pre ++ post).map Binding.binds).Nodup)
    (hu : ∀ p b q, pre ++ post = p ++ b :: q → ∀ u ∈ b.uses, u ∈ p.map Binding.binds) :
    evalBindings rt file (post.map Binding.sexp) (envOf pre) = .ok (envOf (pre ++ post)) := by
  induction post generalizing pre with
  | nil => simp [evalBindings]
  | cons b rest ih =>
    have hnp : (pre.map Binding.binds).Nodup := by
      simp only [List.map_append] at hn; exact (List.nodup_append.mp hn).1
    have he := eval_binding (apN closureDepth) { rt := rt, file := file, env := envOf pre } pre rfl b hnp (hu pre b rest rfl)
    rw [List.map_cons, show b.sexp = (b.sexp.1, b.sexp.2) from rfl]
    simp only [evalBindings, he]
    rw [sexp_name, ← envOf_snoc]
    have := ih (pre ++ [b]) (by simpa using hn) (by intro p c q h; exact hu p c q (by simpa using h))
    simpa using this

theorem evalBindings_vars (rt : Rt) (file : File) {vars : List Binding} {k : Nat} (h : Core vars k) :
    evalBindings rt file (vars.map Binding.sexp) [] = .ok (envOf vars) :=
  evalBindings_envOf rt file [] vars h.nodup h.usesBound

end Scheme
end FV

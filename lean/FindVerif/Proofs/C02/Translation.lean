import FindVerif.Proofs.C02.FinalEnv
import FindVerif.Proofs.C02.Format
import FindVerif.Proofs.C02.GenState
/- The structured program of a tree means what the tree means: the leaves case by case, the
   operators by induction over the tree.  Every sub-form is evaluated in the environment of the final
   manager `mF`, not of the manager it was generated at: `hstep : Step st'.mgr mF` carries what a
   sub-form's bindings need there (`Step.mem`). -/
namespace FV
namespace Scheme
open Spec (File Rt Dest Output Outcome)

theorem test_sem {mF : Manager} {cx : Ctx} {clk : Nat → Nat} {now : Nat} (hclk : ∀ i, clk i = now)
    {t : Test} {st st' : CState} {sx : SExp} (hgen : genTest clk t st = .ok (sx, st'))
    (hinv : Inv st.mgr) (hstep : Step st'.mgr mF) (hF : FinalEnv mF cx) :
    Agrees mF.printerMap (eval (apN closureDepth) cx [] sx) (Spec.evalFind cx.rt now (.test t) cx.file) := by
  have h := hF.unshadowed
  -- the four name tests: the matcher the request returned, applied to the name or the path
  have nameCase : ∀ (s : Text) (ci : Bool) {pre : Text} {p : Prim} {cand : Text}, primOf pre = some p →
      (∀ g, applyPrim cx (apvHO (apN closureDepth) cx) p [g] = apvHO (apN closureDepth) cx g [.str cand]) →
      Step (st.mgr.getMatcher s ci).2 mF →
      eval (apN closureDepth) cx [] (call pre [sy (st.mgr.getMatcher s ci).1]) =
        .ok (.bool (Spec.nameHolds cx.rt ci s cand)) [] := by
    intro s ci pre p cand hp happ hstep
    obtain ⟨_, i, hname, hbind, _⟩ := getMatcher_spec st.mgr s ci hinv
    obtain ⟨k, hl⟩ := hF.matcher i s ci (hstep.mem hbind)
    rw [hname]
    -- `closureDepth` is `3 + 1`: a matcher needs one level of closure application
    exact h.prim1 hp (eval_sym hl) ((happ (.clo _ _ k)).trans
      (eval_matcherBody (apN 3) { cx with env := cx.env.take k } (h.env.take k) i s ci cand))
  cases t
  case accessTime c | changeTime c | modifyTime c =>
    cases hgen; rw [hclk]; exact .bool (h.eval_genTimeComp now c (h.prim0 rfl rfl))
  case empty | executable | readable | writable => cases hgen; exact .bool (h.prim0 rfl rfl)
  case false_ | true_ => cases hgen; exact .bool (eval_bool _)
  case groupId c | userId c | inodeNumber c | links c | mirrorCount c | stripeCount c =>
    cases hgen; exact .bool (h.eval_genCmp c (h.prim0 rfl rfl))
  case size c => cases hgen; exact .bool (h.eval_genSizeComp c)
  case type l => cases hgen; exact .bool (h.eval_genTypeList l)
  case perm p => cases hgen; exact .bool (h.eval_genPermCheck p)
  case pool s =>
    cases hgen
    obtain ⟨v, hv, ht⟩ := h.eval_pool (ap := apN closureDepth) s
    exact Agrees.pure hv ht
  case xattr k => cases hgen; exact .bool (h.prim1 rfl (eval_str _) rfl)
  case xattrMatch k v =>
    -- the generator and find branch on the same condition (`offending_eq`)
    rw [genTest_xattrMatch] at hgen
    cases hgen
    show Agrees _ _ (match Spec.testHolds cx.rt now (.xattrMatch k v) cx.file with | some b => .done b [] | none => .undefined)
    rw [testHolds_xattrMatch, ← offending_eq, ← offending_eq]
    generalize (k.any isOffending || v.any isOffending) = c
    cases c
    · exact .bool (h.eval_xattrEqual k v)
    · exact .bool (h.prim2 rfl (eval_str _) (eval_str _) rfl)
  case name s | insensitiveName s | path s | insensitivePath s =>
    cases hgen; exact .bool (nameCase s _ rfl (fun _ => rfl) hstep)
  case accessNewer | changeNewer | fsType | group | insensitiveLinkName | insensitiveRegex | linkName | modifyNewer
      | noGroup | noUser | regex | samefile | user => cases hgen

theorem action_sem {mF : Manager} {cx : Ctx} {now : Nat} {a : Action} {st st' : CState} {sx : SExp}
    (hgen : genAction a st = .ok (sx, st')) (hinv : Inv st.mgr) (hstep : Step st'.mgr mF) (hF : FinalEnv mF cx) :
    Agrees mF.printerMap (eval (apN closureDepth) cx [] sx) (Spec.evalFind cx.rt now (.action a) cx.file) := by
  have h := hF.unshadowed
  have fmtCase : ∀ (r : Text × Manager) (dest : Option Text) (es : List FormatElement),
      PrinterFor r.2 r.1 dest none →
      (CRes.ofExcept (genFormat es)).map (fun f => (call r.1 [f], { st with mgr := r.2 })) = CRes.ok (sx, st') →
      Agrees mF.printerMap (eval (apN closureDepth) cx [] sx)
        (match (Spec.formatText cx.rt cx.file es).map (fun b => (⟨destD dest, b, none⟩ : Output)) with
          | some o => .done true [o]
          | none => .undefined) := by
    intro r dest es hpf hres
    obtain ⟨f, hf, hp⟩ := CRes.map_ok_iff.mp hres
    cases hp
    cases hs : Spec.formatText cx.rt cx.file es with
    | none => trivial
    | some txt =>
      exact printer_apply r.1 dest none (hpf.step hstep) hF rfl f txt (eval_genFormat h es f txt (CRes.ofExcept_ok_iff.mp hf) hs)
  cases a
  case defaultPrint | printFid => cases hgen; exact Agrees.single (h.prim0 rfl rfl) rfl
  case quit => cases hgen; exact ⟨[], h.prim1 rfl (eval_num _) rfl, rfl⟩
  case print | printNull =>
    cases hgen; exact printer_path _ none _ ((request_spec st.mgr none _ hinv).2.step hstep) hF (by decide)
  case filePrint d | filePrintNull d =>
    cases hgen; exact printer_path _ (some d) _ ((request_spec st.mgr (some d) _ hinv).2.step hstep) hF (by decide)
  case printFormatted es =>
    rw [genAction_printFormatted] at hgen
    exact fmtCase _ none es (request_spec st.mgr none none hinv).2 hgen
  case filePrintFormatted d es =>
    rw [genAction_filePrintFormatted] at hgen
    exact fmtCase _ (some d) es (request_spec st.mgr (some d) none hinv).2 hgen
  case prune | list | fileList => cases hgen

theorem expr_sem {mF : Manager} {cx : Ctx} {clk : Nat → Nat} {now : Nat} (hclk : ∀ i, clk i = now) (hF : FinalEnv mF cx)
    {e : Expr} {st st' : CState} {sx : SExp} (h : genExpr clk e st = .ok (sx, st')) (hinv : Inv st.mgr)
    (hstep : Step st'.mgr mF) :
    Agrees mF.printerMap (eval (apN closureDepth) cx [] sx) (Spec.evalFind cx.rt now e cx.file) := by
  induction e generalizing st st' sx with
  | test t => exact test_sem hclk h hinv hstep hF
  | action a => exact action_sem h hinv hstep hF
  | global g | positional p | prec e _ => cases h
  | not e ih =>
    rw [genExpr_not] at h
    obtain ⟨x, h1, rfl⟩ := CRes.mapOk_ok_iff.mp h
    rw [hF.unshadowed.eval_not]
    exact (ih h1 hinv hstep).not_
  | and a b iha ihb | list a b iha ihb =>
    simp only [genExpr_and, genExpr_list] at h
    obtain ⟨xa, s1, xb, ha, hb, rfl⟩ := CRes.thenOk_ok_iff.mp h
    have step1 := genExpr_step clk _ _ _ _ hinv ha
    have step2 := genExpr_step clk _ _ _ _ step1.inv hb
    rw [eval_and2]
    exact (iha ha hinv (step2.trans hstep)).and_ (ihb hb step1.inv hstep)
  | or a b iha ihb =>
    rw [genExpr_or] at h
    obtain ⟨xa, s1, xb, ha, hb, rfl⟩ := CRes.thenOk_ok_iff.mp h
    have step1 := genExpr_step clk _ _ _ _ hinv ha
    have step2 := genExpr_step clk _ _ _ _ step1.inv hb
    rw [eval_or2]
    exact (iha ha hinv (step2.trans hstep)).or_ (ihb hb step1.inv hstep)

end Scheme
end FV

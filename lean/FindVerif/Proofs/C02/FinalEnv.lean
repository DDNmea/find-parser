import FindVerif.Proofs.C02.Closures
import FindVerif.Proofs.C02.Agrees
import FindVerif.Proofs.CompileInv
/-
  The context the policy body runs in (`FinalEnv`), and what the names that resource requests
  returned are bound to there: a matcher name to its closure, a printer name to a procedure that
  writes one output to the requested destination, in either output mode (`WritesTo`, `printer_value`).
-/
namespace FV
namespace Scheme
open Spec (File Rt Dest Output Outcome)

def destD : Option Text → Dest
  | none => .stdout
  | some f => .file f

structure FinalEnv (mF : Manager) (cx : Ctx) : Prop where
  env : cx.env = envOf mF.vars
  inv : Inv mF
  small : mF.distributed = true → ∀ t i, (t, i) ∈ mF.printersD → i < 0xD800
  distPrefix : mF.distributed = true → ∃ e, mF.vars = Manager.distInit.vars ++ e

/-- `htags`: the frame tags are all characters. -/
theorem FinalEnv.of_step {e : Expr} {mF : Manager} (rt : Rt) (file : File) (hstep : Step (initialManager e) mF)
    (htags : ∀ kv ∈ mF.printerMap.getD [], kv.1 < 0xD800) :
    FinalEnv mF { rt := rt, file := file, env := envOf mF.vars } := by
  refine ⟨rfl, hstep.inv, fun hd t i hin => htags (i, t) ((mem_printerMap hd).mpr hin), fun hd => ?_⟩
  exact initialManager_cases (P := fun m => Step m mF → ∃ x, mF.vars = Manager.distInit.vars ++ x)
      (fun hs => hs.ext) (fun hs => nomatch hs.mode.symm.trans hd) e hstep

theorem FinalEnv.unshadowed {mF : Manager} {cx : Ctx} (h : FinalEnv mF cx) : Unshadowed cx [] :=
  ⟨h.env ▸ envOf_gen _, envGen_nil⟩

theorem FinalEnv.matcher {mF : Manager} {cx : Ctx} (h : FinalEnv mF cx) (i : Nat) (pat : Text) (ci : Bool)
    (hm : Binding.matcher i pat ci ∈ mF.vars) :
    ∃ k, lookup cx.env (lf3 (cl!"match") (i + 1)) = some (.clo [lf3 (cl!"str") i] [matcherBody i pat ci] k) := by
  obtain ⟨pre, hl⟩ := lookup_envOf_mem h.inv.core.nodup hm
  exact ⟨_, h.env ▸ hl⟩

theorem FinalEnv.printerL {mF : Manager} {cx : Ctx} (h : FinalEnv mF cx) (i prt mtx : Nat) (t : Option Char) (dest : Option Text)
    (hm : Binding.printerL i prt mtx t ∈ mF.vars) (hp : portBinding dest prt ∈ mF.vars) :
    ∃ k, lookup cx.env (lf3 (cl!"print") i) = some (.printer (destD dest) k (termV t)) := by
  obtain ⟨pre, post, hs⟩ := List.append_of_mem hm
  have hnd := h.inv.core.nodup
  have hl := lookup_envOf pre post _ (hs ▸ hnd)
  have hnp : (pre.map Binding.binds).Nodup := by
    rw [hs, List.map_append] at hnd; exact (List.nodup_append.mp hnd).1
  obtain ⟨d, k, _, _, hv, hwhich⟩ := bindingValue_printerL pre i prt mtx t hnp (h.inv.core.usesBound pre _ post hs)
  -- names are unique, so the port binding found before the printer is the requested one
  have hdest : d = destD dest := by
    have same : ∀ {b c : Binding}, b ∈ pre → c ∈ mF.vars → b.binds = c.binds → b = c := fun hb hc =>
      nodup_map_inj hnd (hs ▸ List.mem_append_left _ hb) hc
    rcases hwhich with ⟨hin, rfl⟩ | ⟨f, hin, rfl⟩ <;> cases dest <;> cases same hin hp rfl <;> rfl
  refine ⟨k, ?_⟩
  rw [h.env, hs, ← hdest, ← hv]
  exact hl

theorem FinalEnv.printerD {mF : Manager} {cx : Ctx} (h : FinalEnv mF cx) (hd : mF.distributed = true) (i : Nat)
    (hm : Binding.printerD i ∈ mF.vars) :
    ∃ e post, mF.vars = Manager.distInit.vars ++ e ++ post ∧
      lookup cx.env (lf3 (cl!"print") i) = some (.clo [cl!"line"] [frameCall i] (Manager.distInit.vars ++ e).length) := by
  obtain ⟨e, he⟩ := h.distPrefix hd
  have hin : Binding.printerD i ∈ e := by
    rw [he] at hm
    simp [Manager.distInit] at hm
    exact hm
  obtain ⟨e1, e2, rfl⟩ := List.append_of_mem hin
  have hs : mF.vars = Manager.distInit.vars ++ e1 ++ Binding.printerD i :: e2 := by rw [he, List.append_assoc]
  refine ⟨e1, _, hs, ?_⟩
  rw [h.env, hs, ← envOf_length]
  exact lookup_envOf _ e2 (.printerD i) (hs ▸ h.inv.core.nodup)

theorem decode_frame {mF : Manager} (hinv : Inv mF) (hd : mF.distributed = true) (dest : Option Text) (term : Option Char)
    (i : Nat) (hi : i < 0xD800)
    (hin : (Target.of dest term, i) ∈ mF.printersD) (p : Text) :
    decode mF.printerMap [.raw .stdout p, .raw .stdout [Char.ofNat 0x1e, Char.ofNat i]] =
      some [⟨destD dest, p, term⟩] := by
  -- tags are unique in the table, so the entry found under `i` is the one registered under it
  have hfind := find?_of_mem (l := mF.printersD.map fun kv => (kv.2, kv.1))
    (by rw [printerMap_tags]; exact hinv.maps.dVals) (List.mem_map.mpr ⟨_, hin, rfl⟩)
  have h30 : (Char.ofNat 0x1e).toNat = 0x1e := by decide
  have head : frameHead mF.printerMap p (Char.ofNat 0x1e) (Char.ofNat i) = some ⟨destD dest, p, term⟩ := by
    simp only [frameHead, printerMap_of_dist hd, h30, if_true, char_toNat_ofNat i hi, hfind]
    cases dest <;> rfl
  rw [decode_framed, head]
  rfl

/-- `g` applied to a line, directly or by a `call-with-…` procedure, writes that line as one
    output to `dest` with terminator `term`. -/
def WritesTo (io : Option (List (Nat × Target))) (cx : Ctx) (g : Val) (dest : Dest) (term : Option Char) : Prop :=
  ∀ s, ∃ evs, applyVal (apN closureDepth) cx g [.str s] = .ok .unspec evs ∧
    apvHO (apN closureDepth) cx g [.str s] = .ok .unspec evs ∧ decode io evs = some [⟨dest, s, term⟩]

/-- `hterm`: the program passes the terminator's low byte (`termV`); the terminators the generator asks
    for (none, newline, NUL) are their own low byte, which the callers show by evaluation. -/
theorem printer_value {mF : Manager} {cx : Ctx} (name : Text) (dest : Option Text) (term : Option Char)
    (hpf : PrinterFor mF name dest term) (hF : FinalEnv mF cx) (hterm : termV term = term) :
    name.head? = some '%' ∧ ∃ g, lookup cx.env name = some g ∧ WritesTo mF.printerMap cx g (destD dest) term := by
  cases hdF : mF.distributed with
  | true =>
    obtain ⟨i, rfl, hb, hin⟩ := hpf.dist hdF
    obtain ⟨e, post, hs, hl⟩ := hF.printerD hdF i hb
    -- `closureDepth` is `2 + 2`: a framed printer needs two levels, it calls the frame procedure
    have happ := apply_framed_printer 2 cx e post (hs ▸ hF.env) (hs ▸ hF.inv.core.nodup) i
    exact ⟨gname_head _, _, hl, fun s => ⟨_, happ s, happ s,
      decode_frame hF.inv hdF dest term i (hF.small hdF _ _ hin) hin s⟩⟩
  | false =>
    obtain ⟨i, p, rfl, hpl, _, hport⟩ := hpf.plain hdF
    obtain ⟨k, hl⟩ := hF.printerL i p.port p.mutex term dest hpl hport
    exact ⟨gname_head _, _, hl, fun s => ⟨_, rfl, rfl, by simp [decode, hterm]⟩⟩

theorem printer_apply {mF : Manager} {cx : Ctx} (name : Text) (dest : Option Text) (term : Option Char)
    (hpf : PrinterFor mF name dest term) (hF : FinalEnv mF cx) (hterm : termV term = term)
    (arg : SExp) (s : Text) (ha : eval (apN closureDepth) cx [] arg = .ok (.str s) []) :
    Agrees mF.printerMap (eval (apN closureDepth) cx [] (call name [arg])) (.done true [⟨destD dest, s, term⟩]) := by
  obtain ⟨hn, g, hl, hw⟩ := printer_value name dest term hpf hF hterm
  obtain ⟨evs, h1, _, h3⟩ := hw s
  exact .single ((eval_call_bound (loc := []) hn hl (evalArgs_one ha)).trans h1) h3

theorem printer_path {mF : Manager} {cx : Ctx} (name : Text) (dest : Option Text) (term : Option Char)
    (hpf : PrinterFor mF name dest term) (hF : FinalEnv mF cx) (hterm : termV term = term) :
    Agrees mF.printerMap (eval (apN closureDepth) cx [] (call (cl!"call-with-relative-path") [sy name]))
      (.done true [⟨destD dest, cx.file.relPath, term⟩]) := by
  obtain ⟨_, g, hl, hw⟩ := printer_value name dest term hpf hF hterm
  obtain ⟨evs, _, h2, h3⟩ := hw cx.file.relPath
  exact .single (hF.unshadowed.prim1 rfl (eval_sym hl) h2) h3

end Scheme
end FV

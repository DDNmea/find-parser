import FindVerif.Proofs.C02.EvalBasic
/- What the emitted code of each test evaluates to: find's truth value of the test.  A generator
   that takes the name of a file attribute is described for any name whose call evaluates to a
   number; the caller puts the attribute in (`h.prim0 rfl rfl`). -/
namespace FV
namespace Scheme
open Spec (File Rt Dest Output Outcome)

variable {ap : CloAp} {cx : Ctx} {loc : List (Text × Val)}

/-- The truth value of `(op x y)` for the operator of a comparison. -/
def cmpZ {α : Type} (c : Comparison α) (x y : Int) : Bool :=
  match c with
  | .gt _ => decide (x > y)
  | .lt _ => decide (x < y)
  | .eq _ => decide (x = y)

theorem Unshadowed.eval_cmp (h : Unshadowed cx loc) {α : Type} (c : Comparison α) {a b : SExp} {x y : Int}
    (ha : eval ap cx loc a = .ok (.int x) []) (hb : eval ap cx loc b = .ok (.int y) []) :
    eval ap cx loc (call (cmpOp c) [a, b]) = .ok (.bool (cmpZ c x y)) [] := by
  cases c <;> exact h.prim2 rfl ha hb rfl

theorem cmpZ_cast (c : Comparison Nat) (x : Nat) : cmpZ c x c.val = Spec.cmp c x := by
  cases c <;> simp only [cmpZ, Spec.cmp, Comparison.val] <;> apply decide_eq_decide.mpr <;> omega

theorem cmpZ_mul {α : Type} (c : Comparison α) (f : α → Nat) (q m : Nat) (hm : 0 < m) :
    cmpZ c ((q * m : Nat) : Int) ((f c.val * m : Nat) : Int) = Spec.cmp (c.map f) q := by
  cases c <;> simp only [cmpZ, Spec.cmp, Comparison.map, Comparison.val] <;> apply decide_eq_decide.mpr
  · rw [gt_iff_lt, Int.ofNat_lt, Nat.mul_lt_mul_right hm]
  · rw [Int.ofNat_lt, Nat.mul_lt_mul_right hm]
  · rw [Int.natCast_inj, Nat.mul_left_inj (Nat.ne_of_gt hm)]

theorem Unshadowed.eval_genCmp (h : Unshadowed cx loc) (c : Comparison Nat) {f : Text} {n : Nat}
    (hf : eval ap cx loc (call f []) = .ok (.int n) []) :
    eval ap cx loc (genCmp c f) = .ok (.bool (Spec.cmp c n)) [] := by
  rw [genCmp, h.eval_cmp c hf (eval_num _), cmpZ_cast]

theorem mult_pos (s : Size) : 0 < s.mult := by cases s <;> simp [Size.mult]

theorem sizeUnit_eq (s : Size) : Spec.sizeUnit s = s.mult := by cases s <;> rfl
theorem sizeCount_eq : Spec.sizeCount = Size.count := by funext s; cases s <;> rfl

theorem Unshadowed.eval_sizeLhs (h : Unshadowed cx loc) (s : Size) :
    eval ap cx loc (sizeLhsS s) = .ok (.int (((cx.file.size + s.mult - 1) / s.mult * s.mult : Nat))) [] := by
  have hsz : eval ap cx loc (call (cl!"size") []) = .ok (.int cx.file.size) [] := h.prim0 rfl rfl
  cases s with
  | byte n => simpa [sizeLhsS, Size.mult] using hsz
  | _ => exact h.prim2 rfl hsz (eval_num _) rfl

theorem Unshadowed.eval_genSizeComp (h : Unshadowed cx loc) (c : Comparison Size) :
    eval ap cx loc (genSizeComp c) = .ok (.bool (Spec.sizeHolds c cx.file.size)) [] := by
  rw [genSizeComp, h.eval_cmp c (h.eval_sizeLhs c.val) (eval_num _), exactByteSize, cmpZ_mul c _ _ _ (mult_pos _),
    Spec.sizeHolds, sizeUnit_eq, sizeCount_eq]

theorem secs_ne_zero (t : TimeSpec) : (t.secs : Int) ≠ 0 := by cases t <;> simp [TimeSpec.secs]
theorem timeUnit_eq (t : TimeSpec) : Spec.timeUnit t = t.secs := by cases t <;> rfl
theorem timeCount_eq : Spec.timeCount = TimeSpec.count := by funext t; cases t <;> rfl

theorem Unshadowed.eval_genTimeComp (h : Unshadowed cx loc) (now : Nat) (c : Comparison TimeSpec) {f : Text} {t : Nat}
    (hf : eval ap cx loc (call f []) = .ok (.int t) []) :
    eval ap cx loc (genTimeComp now f c) = .ok (.bool (Spec.timeHolds c now t)) [] := by
  have hq : eval ap cx loc (call (cl!"quotient") [call (cl!"-") [.num now, call f []], .num c.val.secs]) =
      .ok (.int (Int.tdiv ((now : Int) - t) c.val.secs)) [] :=
    h.prim2 rfl (h.prim2 rfl (eval_num _) hf rfl) (eval_num _) (if_neg (secs_ne_zero _))
  rw [genTimeComp, h.eval_cmp c hq (eval_num _), Spec.timeHolds, timeUnit_eq, timeCount_eq]
  cases c <;> rfl

theorem Unshadowed.eval_logand (h : Unshadowed cx loc) (m : Nat) :
    eval ap cx loc (call (cl!"logand") [call (cl!"mode") [], .num m]) = .ok (.int ((cx.file.mode &&& m : Nat))) [] :=
  h.prim2 rfl (h.prim0 rfl rfl) (eval_num _) rfl

theorem Unshadowed.eval_eq_nat (h : Unshadowed cx loc) {a b : SExp} {x y : Nat}
    (ha : eval ap cx loc a = .ok (.int x) []) (hb : eval ap cx loc b = .ok (.int y) []) :
    eval ap cx loc (call (cl!"=") [a, b]) = .ok (.bool (x == y)) [] :=
  h.prim2 rfl ha hb (by
    -- the primitive decides equality of the two integers; `x == y` is `decide (x = y)` by definition
    show R.ok (Val.bool (decide ((x : Int) = y))) [] = _
    simp only [Int.natCast_inj]
    rfl)

theorem typeCode_eq (tp : FileType) : Spec.typeCode tp = tp.octal := by cases tp <;> rfl

theorem evalOr_bools {α : Type} (l : List α) (g : α → SExp) (t : α → Bool)
    (hev : ∀ a ∈ l, eval ap cx loc (g a) = .ok (.bool (t a)) []) :
    evalOr ap cx loc (l.map g) = .ok (.bool (l.any t)) [] := by
  induction l with
  | nil => simp [evalOr]
  | cons a rest ih =>
    cases rest with
    | nil => simp [evalOr, hev a (by simp)]
    | cons b rest' =>
      simp only [List.map_cons] at ih ⊢
      rw [evalOr, hev a (by simp), R.bind_ok_nil]
      cases ha : t a with
      | true => simp [Val.truthy, ha]
      | false =>
        simp only [Val.truthy, Bool.false_eq_true, if_false]
        rw [ih (fun x hx => hev x (by simp [hx]))]
        simp [ha]

theorem Unshadowed.eval_genTypeList (h : Unshadowed cx loc) (l : List FileType) :
    eval ap cx loc (genTypeList l) = .ok (.bool (Spec.typeHolds l cx.file.mode)) [] := by
  have one : ∀ tp, eval ap cx loc (call (cl!"=") [call (cl!"logand") [call (cl!"mode") [], .num S_IFMT], .num tp.octal]) =
      .ok (.bool (cx.file.mode &&& 0o170000 == Spec.typeCode tp)) [] := fun tp =>
    typeCode_eq tp ▸ h.eval_eq_nat (h.eval_logand S_IFMT) (eval_num _)
  have all := evalOr_bools (ap := ap) (cx := cx) (loc := loc) l _ _ fun tp _ => one tp
  unfold genTypeList Spec.typeHolds
  match l with
  | [tp] => simpa using one tp
  | [] | _ :: _ :: _ => rw [← all]; exact eval_or _

theorem Unshadowed.eval_genPermCheck (h : Unshadowed cx loc) (p : PermCheck) :
    eval ap cx loc (genPermCheck p) = .ok (.bool (Spec.permHolds p cx.file.mode)) [] := by
  cases p with
  | equal m | atLeast m => exact h.eval_eq_nat (h.eval_logand _) (eval_num _)
  | any m =>
    rw [genPermCheck, h.eval_not, h.eval_eq_nat (h.eval_logand _) (eval_num _), R.bind_ok_nil, truthy_bool]
    rfl

theorem Unshadowed.eval_pool (h : Unshadowed cx loc) (s : Text) :
    ∃ v, eval ap cx loc (call (cl!"member") [.str s, call (cl!"lov-pools") []]) = .ok v [] ∧
      v.truthy = cx.file.pools.any (· = s) := by
  have member : applyPrim cx (apvHO ap cx) .member [.str s, .strs cx.file.pools] =
      if cx.file.pools.any (· = s) then .ok (.strs (cx.file.pools.dropWhile (· ≠ s))) [] else .ok (.bool false) [] := rfl
  rw [h.prim2 rfl (eval_str _) (h.prim0 rfl rfl) member]
  cases cx.file.pools.any (· = s) <;> exact ⟨_, rfl, rfl⟩

theorem Unshadowed.eval_xattrRef (h : Unshadowed cx loc) (k : Text) :
    eval ap cx loc (call (cl!"xattr-ref-string") [.str k]) =
      .ok (match Spec.xattrLookup cx.file.xattrs k with | some v => .str v | none => .bool false) [] :=
  h.prim1 rfl (eval_str _) (by
    show (match Spec.xattrLookup cx.file.xattrs k with | some v => _ | none => _) = _
    cases Spec.xattrLookup cx.file.xattrs k <;> rfl)

theorem Unshadowed.eval_xattrEqual (h : Unshadowed cx loc) (k v : Text) :
    eval ap cx loc (call (cl!"equal?") [call (cl!"xattr-ref-string") [.str k], .str v]) =
      .ok (.bool (Spec.xattrLookup cx.file.xattrs k == some v)) [] := by
  refine h.prim2 rfl (h.eval_xattrRef k) (eval_str _) (?_ : R.ok (Val.bool (valEqual _ _)) [] = _)
  cases Spec.xattrLookup cx.file.xattrs k <;> simp [valEqual]

theorem offending_eq (s : Text) : s.any isOffending = Spec.xattrSpecial s :=
  congrArg s.any (funext fun c => by simp [isOffending, containsChar, eq_comm, Bool.or_assoc])

theorem testHolds_xattrMatch (rt : Rt) (now : Nat) (k v : Text) (f : File) :
    Spec.testHolds rt now (.xattrMatch k v) f =
      some (if Spec.xattrSpecial k || Spec.xattrSpecial v then rt.xattrGlob k v f.xattrs
        else Spec.xattrLookup f.xattrs k == some v) := by
  show (if _ then _ else _) = _
  split <;> rfl

end Scheme
end FV

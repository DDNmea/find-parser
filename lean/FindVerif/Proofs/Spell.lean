import FindVerif.Spec.Spell
/- The canonical spelling of a tree without explicit-precedence nodes is a sentence of the grammar,
   at the binding level it was spelt for. -/
namespace FV
namespace Spec

def GLevel : Nat → List Token → Expr → Prop
  | 0 => GList
  | 1 => GOr
  | 2 => GAnd
  | _ => GAtom

theorem GLevel.pred {ts e} : ∀ l, GLevel (l + 1) ts e → GLevel l ts e
  | 0, h => .or h
  | 1, h => .and h
  | 2, h => .atom h
  | _ + 3, h => h

theorem GLevel.mono {ts e} {l l' : Nat} (hl : l ≤ l') : GLevel l' ts e → GLevel l ts e := by
  induction hl with
  | refl => exact id
  | step _ ih => exact fun h => ih (GLevel.pred _ h)

theorem GLevel.ofAtom {ts e} (h : GAtom ts e) (lvl : Nat) : GLevel lvl ts e :=
  GLevel.mono (l' := lvl + 3) (Nat.le_add_right _ _) h

theorem GLevel.toList {ts e} : ∀ lvl, GLevel lvl ts e → GList ts e :=
  fun _ => GLevel.mono (Nat.zero_le _)

theorem GLevel.wrap {ts e} (have_ lvl : Nat) (h : GLevel have_ ts e) :
    GLevel lvl (wrap (decide (have_ < lvl)) ts) e := by
  by_cases hlt : have_ < lvl
  · simp only [hlt, decide_true]
    exact GLevel.ofAtom (.paren (GLevel.toList have_ h)) lvl
  · simp only [hlt, decide_false]
    exact h.mono (by omega)

theorem spellAt_sound (x : Bool) : ∀ (e : Expr), Plain e → ∀ lvl, GLevel lvl (spellAt x lvl e) e
  | .test _, _, lvl | .action _, _, lvl | .global _, _, lvl | .positional _, _, lvl => GLevel.ofAtom (.prim rfl) lvl
  | .prec e, h, _ => h.elim
  | .not e, h, lvl => GLevel.ofAtom (.not (spellAt_sound x e h 3)) lvl
  | .and a b, h, lvl => by
    have ha : GAnd (spellAt x 2 a) a := spellAt_sound x a h.1 2
    have hb : GAtom (spellAt x 3 b) b := spellAt_sound x b h.2 3
    have hand : GAnd (spellAt x 2 a ++ (if x then [Token.and] else []) ++ spellAt x 3 b) (.and a b) := by
      cases x
      · simpa using GAnd.andI ha hb
      · simpa using GAnd.andE ha hb
    exact GLevel.wrap 2 lvl hand
  | .or a b, h, lvl => by
    have ha : GOr (spellAt x 1 a) a := spellAt_sound x a h.1 1
    have hb : GAnd (spellAt x 2 b) b := spellAt_sound x b h.2 2
    have hor : GOr (spellAt x 1 a ++ [Token.or] ++ spellAt x 2 b) (.or a b) := by
      simpa using GOr.or ha hb
    exact GLevel.wrap 1 lvl hor
  | .list a b, h, lvl => by
    have ha : GList (spellAt x 0 a) a := spellAt_sound x a h.1 0
    have hb : GOr (spellAt x 1 b) b := spellAt_sound x b h.2 1
    have hl : GList (spellAt x 0 a ++ [Token.comma] ++ spellAt x 1 b) (.list a b) := by
      simpa using GList.comma ha hb
    exact GLevel.wrap 0 lvl hl

theorem spell_sound (x : Bool) (e : Expr) (h : Plain e) : GList (spell x e) e :=
  spellAt_sound x e h 0

end Spec
end FV

import FindVerif.Model.Text
/- `baseVal` digit by digit; decimal printing then reading gives the number back (`decVal_natToDec`),
   and what is printed is a non-empty run of digits. -/
namespace FV

theorem digitVal_ofNat : ∀ k, k < 10 → digitVal (Char.ofNat ('0'.toNat + k)) = k := by decide

theorem isDigit_ofNat : ∀ k, k < 10 → isDigit (Char.ofNat ('0'.toNat + k)) = true := by decide

theorem baseVal_foldl (b : Nat) (acc : Nat) (ds : List Char) :
    ds.foldl (fun a c => a * b + digitVal c) acc = acc * b ^ ds.length + baseVal b ds := by
  induction ds generalizing acc with
  | nil => simp [baseVal]
  | cons d ds ih =>
    simp only [List.foldl_cons, baseVal, List.length_cons]
    rw [ih, ih (0 * b + digitVal d)]
    simp [Nat.pow_succ, Nat.add_mul, Nat.mul_assoc, Nat.add_assoc, Nat.mul_comm b]

theorem baseVal_cons (b : Nat) (d : Char) (ds : List Char) :
    baseVal b (d :: ds) = digitVal d * b ^ ds.length + baseVal b ds := by
  simp only [baseVal, List.foldl_cons]
  rw [baseVal_foldl]
  simp [baseVal]

theorem baseVal_append (b : Nat) (xs ys : List Char) :
    baseVal b (xs ++ ys) = baseVal b xs * b ^ ys.length + baseVal b ys := by
  simp only [baseVal, List.foldl_append]
  rw [baseVal_foldl]
  simp [baseVal]

/-- With the accumulator general the induction needs no power of 10. -/
theorem natToDecAux_fold : ∀ (fuel n : Nat) (acc : List Char), n < fuel →
    (natToDecAux fuel n acc).foldl (fun a c => a * 10 + digitVal c) 0 = acc.foldl (fun a c => a * 10 + digitVal c) n := by
  intro fuel
  induction fuel with
  | zero => intro n acc h; omega
  | succ f ih =>
    intro n acc h
    have hd : n / 10 * 10 + digitVal (Char.ofNat ('0'.toNat + n % 10)) = n := by
      rw [digitVal_ofNat _ (Nat.mod_lt _ (by omega)), Nat.mul_comm, Nat.div_add_mod]
    simp only [natToDecAux]
    split
    · next h0 => rw [h0] at hd; rw [List.foldl_cons, hd]
    · rw [ih _ _ (by omega), List.foldl_cons, hd]

theorem decVal_natToDec (n : Nat) : decVal (natToDec n) = n :=
  natToDecAux_fold (n + 1) n [] (Nat.lt_succ_self n)

theorem natToDecAux_digits : ∀ (fuel n : Nat) (acc : List Char), (∀ c ∈ acc, isDigit c = true) →
    ∀ c ∈ natToDecAux fuel n acc, isDigit c = true := by
  intro fuel
  induction fuel with
  | zero => intro n acc h; simpa [natToDecAux] using h
  | succ f ih =>
    intro n acc h
    simp only [natToDecAux]
    have hd := isDigit_ofNat (n % 10) (Nat.mod_lt _ (by omega))
    have hacc : ∀ c ∈ Char.ofNat ('0'.toNat + n % 10) :: acc, isDigit c = true := by
      intro c hc
      simp at hc
      rcases hc with rfl | hc
      · exact hd
      · exact h c hc
    split
    · exact hacc
    · exact ih _ _ hacc

theorem natToDec_digits (n : Nat) : ∀ c ∈ natToDec n, isDigit c = true :=
  natToDecAux_digits _ _ [] (by simp)

theorem natToDecAux_ne_nil : ∀ (fuel n : Nat) (acc : List Char), 0 < fuel → natToDecAux fuel n acc ≠ [] := by
  intro fuel
  induction fuel with
  | zero => intro n acc h; omega
  | succ f ih =>
    intro n acc _
    simp only [natToDecAux]
    split
    · simp
    · cases f with
      | zero => simp [natToDecAux]
      | succ f' => exact ih _ _ (by omega)

theorem natToDec_ne_nil (n : Nat) : natToDec n ≠ [] := natToDecAux_ne_nil _ _ _ (by omega)

theorem natToDec_injective {a b : Nat} (h : natToDec a = natToDec b) : a = b := by
  have := congrArg decVal h
  simpa [decVal_natToDec] using this

end FV

import FindVerif.Proofs.ClimbSound
/- Completeness of the precedence climber: every sentence of the grammar is parsed to its tree. -/
namespace FV
open W Spec

def AndStop (rest : List Token) : Prop :=
  rest = [] ∨ ∃ t r, rest = t :: r ∧ (t = .rparen ∨ t = .or ∨ t = .comma)

def OrStop (rest : List Token) : Prop :=
  rest = [] ∨ ∃ t r, rest = t :: r ∧ (t = .rparen ∨ t = .comma)

def ListStop (rest : List Token) : Prop :=
  rest = [] ∨ ∃ r, rest = Token.rparen :: r

theorem OrStop.andStop {rest} (h : OrStop rest) : AndStop rest :=
  nil_or_head_imp (fun _ ht => ht.elim .inl fun hc => .inr (.inr hc)) h

theorem ListStop.orStop {rest} (h : ListStop rest) : OrStop rest := by
  rcases h with h | ⟨r, e⟩
  · exact Or.inl h
  · exact Or.inr ⟨_, r, e, Or.inl rfl⟩

section level
variable {sub body : P Token Expr} {mk : Expr → Expr → Expr} {pf : Profile}

theorem foldLevel_next (hc : Consumes body) {i mid rest e₁ e₂}
    (ih : foldLevel pf sub body mk i = repeatFold pf body mk (mid.length + 1) e₁ mid)
    (hb : body mid = .ok e₂ rest) :
    foldLevel pf sub body mk i = repeatFold pf body mk (rest.length + 1) (mk e₁ e₂) rest := by
  have hlt := hc mid e₂ rest hb
  rw [ih, repeatFold_step pf _ e₁ mid e₂ rest hb hlt]
  exact repeatFold_stable pf pf hc hlt (Nat.lt_succ_self _)

end level

section stop
variable (pf : Profile) {rest : List Token} {m : Nat} {e : Expr}

theorem andLoop_stop {n : Nat} (hn : 0 < n) (h : AndStop rest) :
    repeatFold pf (andBody (atom pf n)) Expr.and (m + 1) e rest = .ok e rest := by
  obtain ⟨k, rfl⟩ : ∃ k, n = k + 1 := ⟨n - 1, by omega⟩
  refine repeatFold_stop pf m e (andBody_bt.2 ?_)
  rcases h with rfl | ⟨t, r, rfl, rfl | rfl | rfl⟩
  · exact ⟨nofun, atom_nil⟩
  · exact ⟨nofun, atom_stop rfl⟩
  · exact ⟨nofun, atom_stop rfl⟩
  · exact ⟨nofun, atom_stop rfl⟩

theorem orLoop_stop (a : P Token Expr) (h : OrStop rest) :
    repeatFold pf (orBody pf a) Expr.or (m + 1) e rest = .ok e rest :=
  repeatFold_stop pf m e (kwThen_bt.2 (by rcases h with rfl | ⟨t, r, rfl, rfl | rfl⟩ <;> simp))

theorem listLoop_stop (a : P Token Expr) (h : ListStop rest) :
    repeatFold pf (listBody pf a) Expr.list (m + 1) e rest = .ok e rest :=
  repeatFold_stop pf m e (kwThen_bt.2 (by rcases h with rfl | ⟨r, rfl⟩ <;> simp))

end stop

/-! A level, run on a sentence and what follows it, is its loop run on what follows:
  `level (pre ++ rest) = loop e rest`.  Induction over the left-recursive rules then follows the loop.  Each
  statement ends inside its own level's loop, so it asks only that the loops of the tighter levels have
  stopped at `rest`: nothing for AND, `AndStop` for OR, `OrStop` (which gives `AndStop`) for the list. -/

mutual
theorem atom_complete (pf : Profile) : ∀ {pre e}, GAtom pre e → ∀ n rest, (pre ++ rest).length < n →
    atom pf n (pre ++ rest) = .ok e rest
  | _, _, _, 0, _, hn => absurd hn (Nat.not_lt_zero _)
  | _, _, .prim h, n + 1, rest, _ => atom_prim (primExpr_eq_primOf _ ▸ h)
  | _, _, .not h, n + 1, rest, hn =>
    atom_not.trans (notP_ok.2 ⟨_, _, rfl, rfl, atom_complete pf h n rest (by simpa using hn)⟩)
  | _, _, @GAtom.paren ts e h, n + 1, rest, hn => by
    have ih := list_complete pf h n (.rparen :: rest) (by simp at hn ⊢; omega) (by simp [OrStop])
    rw [List.cons_append, List.append_assoc]
    exact atom_lparen.trans (parensP_ok.2 ⟨_, rfl, ih.trans (listLoop_stop pf _ (by simp [ListStop]))⟩)

theorem and_complete (pf : Profile) : ∀ {pre e}, GAnd pre e → ∀ n rest, (pre ++ rest).length < n →
    andLevel pf (atom pf n) (pre ++ rest)
      = repeatFold pf (andBody (atom pf n)) Expr.and (rest.length + 1) e rest
  | _, _, .atom h, n, rest, hn => foldLevel_first (atom_complete pf h n rest hn)
  | _, _, @GAnd.andE ts₁ ts₂ e₁ e₂ h₁ h₂, n, rest, hn => by
    rw [List.append_assoc]
    refine foldLevel_next (consumes_andBody (sound_atom pf n)) (and_complete pf h₁ n _ (by simp at hn ⊢; omega)) ?_
    exact alt2_ok.2 (.inl (kwThen_ok.2 ⟨_, rfl, atom_complete pf h₂ n rest (by simp at hn ⊢; omega)⟩))
  | _, _, @GAnd.andI ts₁ ts₂ e₁ e₂ h₁ h₂, n, rest, hn => by
    rw [List.append_assoc]
    refine foldLevel_next (consumes_andBody (sound_atom pf n)) (and_complete pf h₁ n _ (by simp at hn ⊢; omega)) ?_
    exact alt2_ok.2 (.inr ⟨kwThen_bt.2 (h₂.head_ne_and rest), atom_complete pf h₂ n rest (by simp at hn ⊢; omega)⟩)

theorem or_complete (pf : Profile) : ∀ {pre e}, GOr pre e → ∀ n rest, (pre ++ rest).length < n →
    AndStop rest →
    orLevel pf (atom pf n) (pre ++ rest)
      = repeatFold pf (orBody pf (atom pf n)) Expr.or (rest.length + 1) e rest
  | _, _, .and h, n, rest, hn, hs =>
    foldLevel_first ((and_complete pf h n rest hn).trans (andLoop_stop pf (by omega) hs))
  | _, _, @GOr.or ts₁ ts₂ e₁ e₂ h₁ h₂, n, rest, hn, hs => by
    rw [List.append_assoc]
    refine foldLevel_next (consumes_orBody pf (sound_atom pf n))
      (or_complete pf h₁ n _ (by simp at hn ⊢; omega) (by simp [AndStop])) (kwThen_ok.2 ⟨_, rfl, ?_⟩)
    exact (and_complete pf h₂ n rest (by simp at hn ⊢; omega)).trans (andLoop_stop pf (by omega) hs)

theorem list_complete (pf : Profile) : ∀ {pre e}, GList pre e → ∀ n rest, (pre ++ rest).length < n →
    OrStop rest →
    listLevel pf (atom pf n) (pre ++ rest)
      = repeatFold pf (listBody pf (atom pf n)) Expr.list (rest.length + 1) e rest
  | _, _, .or h, n, rest, hn, hs =>
    foldLevel_first ((or_complete pf h n rest hn hs.andStop).trans (orLoop_stop pf _ hs))
  | _, _, @GList.comma ts₁ ts₂ e₁ e₂ h₁ h₂, n, rest, hn, hs => by
    rw [List.append_assoc]
    refine foldLevel_next (consumes_listBody pf (sound_atom pf n))
      (list_complete pf h₁ n _ (by simp at hn ⊢; omega) (by simp [OrStop])) (kwThen_ok.2 ⟨_, rfl, ?_⟩)
    exact (or_complete pf h₂ n rest (by simp at hn ⊢; omega) hs.andStop).trans (orLoop_stop pf _ hs)
end

end FV

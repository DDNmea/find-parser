/- Facts about the core list functions that core does not state and several parts of the development need. -/
namespace FV

theorem run_split {α} {p : α → Bool} {xs rest : List α} (hx : ∀ c ∈ xs, p c = true)
    (hs : rest = [] ∨ ∃ c r, rest = c :: r ∧ p c = false) :
    (xs ++ rest).takeWhile p = xs ∧ (xs ++ rest).dropWhile p = rest := by
  rw [List.takeWhile_append_of_pos hx, List.dropWhile_append_of_pos hx]
  rcases hs with rfl | ⟨c, r, rfl, hc⟩
  · simp
  · simp [hc]

/-- "Empty, or its head is such that …" is the form of every condition on what may follow a piece of input. -/
theorem nil_or_head_imp {α} {P Q : α → Prop} {l : List α} (h : ∀ c, P c → Q c) :
    (l = [] ∨ ∃ c r, l = c :: r ∧ P c) → (l = [] ∨ ∃ c r, l = c :: r ∧ Q c) :=
  Or.imp_right fun ⟨c, r, e, hc⟩ => ⟨c, r, e, h c hc⟩

theorem takeWhile_ne_append {α} [DecidableEq α] {d : α} (xs rest : List α) (h : ∀ c ∈ xs, c ≠ d) :
    (xs ++ d :: rest).takeWhile (· ≠ d) = xs ∧ (xs ++ d :: rest).dropWhile (· ≠ d) = d :: rest :=
  run_split (fun c hc => decide_eq_true (h c hc)) (.inr ⟨d, rest, rfl, by simp⟩)

theorem mem_takeWhile_imp {α} {p : α → Bool} {l : List α} {c : α} (h : c ∈ l.takeWhile p) : p c = true :=
  List.all_eq_true.mp (List.all_takeWhile (l := l) (p := p)) c h

theorem dropWhile_idem {α} {p : α → Bool} (l : List α) : (l.dropWhile p).dropWhile p = l.dropWhile p := by
  induction l with
  | nil => rfl
  | cons c r ih =>
    cases hc : p c with
    | true => rw [List.dropWhile_cons_of_pos hc]; exact ih
    | false => rw [List.dropWhile_cons_of_neg (by simp [hc]), List.dropWhile_cons_of_neg (by simp [hc])]

theorem mapM_cons_eq_some {α β} {f : α → Option β} {a : α} {l : List α} {r : List β} :
    (a :: l).mapM f = some r ↔ ∃ b bs, f a = some b ∧ l.mapM f = some bs ∧ r = b :: bs := by
  simp only [List.mapM_cons, Option.bind_eq_bind, Option.bind_eq_some_iff, Option.pure_def, Option.some.injEq]
  constructor
  · rintro ⟨b, hb, bs, hbs, rfl⟩; exact ⟨b, bs, hb, hbs, rfl⟩
  · rintro ⟨b, bs, hb, hbs, rfl⟩; exact ⟨b, hb, bs, hbs, rfl⟩

theorem mapM_isSome {α β} {f : α → Option β} : ∀ {l : List α} {r : List β}, l.mapM f = some r → ∀ x ∈ l, (f x).isSome
  | [], _, _, _, hx => nomatch hx
  | a :: l, _, h, x, hx => by
    obtain ⟨b, bs, hb, hbs, rfl⟩ := mapM_cons_eq_some.mp h
    rcases List.mem_cons.mp hx with rfl | hx
    · rw [hb]; rfl
    · exact mapM_isSome hbs x hx

theorem mapM_of_isSome {α β} (f : α → Option β) : ∀ (l : List α), (∀ x ∈ l, (f x).isSome) → ∃ r, l.mapM f = some r
  | [], _ => ⟨[], rfl⟩
  | a :: l, h => by
    obtain ⟨b, hb⟩ := Option.isSome_iff_exists.mp (h a (List.mem_cons_self ..))
    obtain ⟨bs, hbs⟩ := mapM_of_isSome f l fun x hx => h x (List.mem_cons_of_mem _ hx)
    exact ⟨b :: bs, mapM_cons_eq_some.mpr ⟨b, bs, hb, hbs, rfl⟩⟩

/-- Rows of a fixed table are found by key: `mem_of_lookup rfl` proves `(k, v) ∈ l` by evaluating
    the lookup, which compares keys only and not whole rows. -/
theorem mem_of_lookup {α β} [BEq α] [LawfulBEq α] {l : List (α × β)} {k : α} {v : β}
    (h : l.lookup k = some v) : (k, v) ∈ l := by
  obtain ⟨l₁, l₂, rfl, _⟩ := List.lookup_eq_some_iff.mp h
  simp

theorem find?_key_congr {κ β : Type} [DecidableEq κ] {l₁ l₂ : List (κ × β)}
    (h₁ : ∀ kv ∈ l₁, l₂.find? (fun x => x.1 = kv.1) = some kv)
    (h₂ : ∀ kv ∈ l₂, l₁.find? (fun x => x.1 = kv.1) = some kv) (a : κ) :
    l₁.find? (fun x => x.1 = a) = l₂.find? (fun x => x.1 = a) := by
  cases h : l₁.find? (fun x => x.1 = a) with
  | some kv =>
    have hk : kv.1 = a := by simpa using List.find?_some h
    rw [← hk, h₁ kv (List.mem_of_find?_eq_some h)]
  | none =>
    cases h' : l₂.find? (fun x => x.1 = a) with
    | none => rfl
    | some kv =>
      have hk : kv.1 = a := by simpa using List.find?_some h'
      rw [← hk, h₂ kv (List.mem_of_find?_eq_some h')] at h
      cases h

theorem find?_of_mem {κ ν : Type} [DecidableEq κ] {l : List (κ × ν)} {k : κ} {v : ν}
    (hn : (l.map Prod.fst).Nodup) (h : (k, v) ∈ l) : l.find? (fun kv => kv.1 = k) = some (k, v) := by
  induction l with
  | nil => cases h
  | cons a l ih =>
    rw [List.map_cons, List.nodup_cons] at hn
    rw [List.find?_cons]
    rcases List.mem_cons.mp h with rfl | h
    · simp
    · have : a.1 ≠ k := fun he => hn.1 (he ▸ List.mem_map_of_mem (f := Prod.fst) h)
      simp [this, ih hn.2 h]

theorem nodup_map_inj {α β : Type} {f : α → β} {l : List α} (hn : (l.map f).Nodup) {a b : α}
    (ha : a ∈ l) (hb : b ∈ l) (hf : f a = f b) : a = b := by
  induction l with
  | nil => simp at ha
  | cons x xs ih =>
    simp only [List.map_cons, List.nodup_cons] at hn
    simp at ha hb
    rcases ha with rfl | ha <;> rcases hb with rfl | hb
    · rfl
    · exact absurd (hf ▸ List.mem_map_of_mem hb) hn.1
    · exact absurd (hf ▸ List.mem_map_of_mem ha) hn.1
    · exact ih hn.2 ha hb

theorem any_or {α : Type} (l : List α) (p q : α → Bool) : l.any (fun x => p x || q x) = (l.any p || l.any q) := by
  induction l with
  | nil => rfl
  | cons a l ih =>
    simp only [List.any_cons, ih]
    cases p a <;> cases q a <;> cases l.any p <;> rfl

theorem snoc_split {α} {xs : List α} {b : α} {pre : List α} {c : α} {post : List α}
    (h : xs ++ [b] = pre ++ c :: post) :
    (post = [] ∧ pre = xs ∧ c = b) ∨ (∃ post', post = post' ++ [b] ∧ xs = pre ++ c :: post') := by
  rcases List.append_eq_append_iff.mp h with ⟨a', rfl, h2⟩ | ⟨c', rfl, h2⟩
  · cases a' with
    | nil => simp at h2; obtain ⟨rfl, rfl⟩ := h2; exact Or.inl ⟨rfl, by simp, rfl⟩
    | cons x a'' => simp at h2
  · cases c' with
    | nil => simp at h2; obtain ⟨rfl, rfl⟩ := h2; exact Or.inl ⟨rfl, by simp, rfl⟩
    | cons x c'' =>
      simp at h2
      obtain ⟨rfl, rfl⟩ := h2
      exact Or.inr ⟨c'', rfl, rfl⟩

theorem nodup_snoc {α} {l : List α} {a : α} (h : l.Nodup) (ha : a ∉ l) : (l ++ [a]).Nodup :=
  List.nodup_append.mpr ⟨h, List.nodup_cons.mpr ⟨List.not_mem_nil, List.nodup_nil⟩, fun x hx y hy => by
    rw [List.mem_singleton.mp hy]; rintro rfl; exact ha hx⟩

theorem nodup_keys_snoc {κ ν} {l : List (κ × ν)} {k : κ} {v : ν} (h : (l.map Prod.fst).Nodup)
    (hk : k ∉ l.map Prod.fst) : ((l ++ [(k, v)]).map Prod.fst).Nodup := by
  rw [List.map_append]
  exact nodup_snoc h hk

theorem nodup_vals_snoc {κ} {l : List (κ × Nat)} {k : κ} {v : Nat} (h : (l.map Prod.snd).Nodup)
    (hlt : ∀ k j, (k, j) ∈ l → j < v) : ((l ++ [(k, v)]).map Prod.snd).Nodup := by
  rw [List.map_append]
  refine nodup_snoc h fun hv => ?_
  obtain ⟨⟨k', j⟩, hkj, rfl⟩ := List.mem_map.mp hv
  exact Nat.lt_irrefl _ (hlt k' j hkj)

end FV

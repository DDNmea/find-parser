import FindVerif.Model.Compile
import FindVerif.Spec.Actions
import FindVerif.Proofs.Grows
/-
  Code generation seen from outside: `compileExpr` node by node in terms
  of the two ways results are combined (`CRes.mapOk`, `CRes.thenOk`), for statements about runs that
  may fail; the clauses of `compileTest`, `placeholder` and `compileAction` that branch, as equations;
  a successful run as a derivation (`Emits`, `Emits.of_ok`: induction and inversion for free); `compile`
  as one run of `compileExpr`.
-/
namespace FV

def CRes.map {α β : Type} (f : α → β) : CRes α → CRes β
  | .ok a => .ok (f a)
  | .err e => .err e
  | .panic p => .panic p

theorem CRes.map_ok_iff {α β : Type} {f : α → β} {x : CRes α} {b : β} : x.map f = .ok b ↔ ∃ a, x = .ok a ∧ b = f a := by
  cases x with
  | ok a => simp [map, eq_comm]
  | err e => simp [map]
  | panic p => simp [map]

def CRes.mapOk {α β : Type} (f : α → β) (x : CRes (α × CState)) : CRes (β × CState) :=
  x.map fun p => (f p.1, p.2)

def CRes.thenOk {α β γ : Type} (f : α → β → γ) (x : CRes (α × CState)) (r : CState → CRes (β × CState)) :
    CRes (γ × CState) :=
  match x with
  | .ok (a, s) => (r s).mapOk (f a)
  | .err e => .err e
  | .panic p => .panic p

theorem CRes.mapOk_ok_iff {α β : Type} {f : α → β} {x : CRes (α × CState)} {b : β} {s : CState} :
    x.mapOk f = .ok (b, s) ↔ ∃ a, x = .ok (a, s) ∧ b = f a := by
  rw [mapOk, map_ok_iff]
  constructor
  · rintro ⟨⟨a, s'⟩, rfl, h⟩; cases h; exact ⟨a, rfl, rfl⟩
  · rintro ⟨a, rfl, rfl⟩; exact ⟨_, rfl, rfl⟩

theorem CRes.thenOk_ok_iff {α β γ : Type} {f : α → β → γ} {x : CRes (α × CState)} {r : CState → CRes (β × CState)}
    {c : γ} {s2 : CState} :
    x.thenOk f r = .ok (c, s2) ↔ ∃ a s1 b, x = .ok (a, s1) ∧ r s1 = .ok (b, s2) ∧ c = f a b := by
  cases x with
  | ok p =>
    obtain ⟨a, s1⟩ := p
    simp only [thenOk, mapOk_ok_iff]
    constructor
    · rintro ⟨b, h, rfl⟩; exact ⟨a, s1, b, rfl, h, rfl⟩
    · rintro ⟨a', s1', b, h1, h2, rfl⟩; cases h1; exact ⟨b, h2, rfl⟩
  | err e => simp [thenOk]
  | panic p => simp [thenOk]

theorem CRes.thenOk_congr {α β γ : Type} {f : α → β → γ} {x : CRes (α × CState)} {r₁ r₂ : CState → CRes (β × CState)}
    (h : ∀ a s1, x = .ok (a, s1) → r₁ s1 = r₂ s1) : x.thenOk f r₁ = x.thenOk f r₂ := by
  cases x with
  | ok p => simp only [thenOk, h p.1 p.2 rfl]
  | err e => rfl
  | panic p => rfl

theorem compileExpr.bin_eq (hd : Text) (l : CRes (Text × CState)) (r : CState → CRes (Text × CState)) :
    compileExpr.bin hd l r = l.thenOk (fun tl tr => hd ++ tl ++ cl!" " ++ tr ++ cl!")") r := by
  cases l with
  | ok p =>
    simp only [compileExpr.bin, CRes.thenOk]
    cases r p.2 <;> rfl
  | err e => rfl
  | panic p => rfl

theorem compileExpr_not (clk : Nat → Nat) (e : Expr) (st : CState) :
    compileExpr clk (.not e) st = (compileExpr clk e st).mapOk fun t => cl!"(not " ++ t ++ cl!")" := by
  rw [compileExpr]
  cases compileExpr clk e st <;> rfl

theorem compileExpr_and (clk : Nat → Nat) (a b : Expr) (st : CState) :
    compileExpr clk (.and a b) st =
      (compileExpr clk a st).thenOk (fun tl tr => cl!"(and " ++ tl ++ cl!" " ++ tr ++ cl!")") (compileExpr clk b) :=
  compileExpr.bin_eq _ _ _

theorem compileExpr_list (clk : Nat → Nat) (a b : Expr) (st : CState) :
    compileExpr clk (.list a b) st =
      (compileExpr clk a st).thenOk (fun tl tr => cl!"(and " ++ tl ++ cl!" " ++ tr ++ cl!")") (compileExpr clk b) :=
  compileExpr.bin_eq _ _ _

theorem compileExpr_or (clk : Nat → Nat) (a b : Expr) (st : CState) :
    compileExpr clk (.or a b) st =
      (compileExpr clk a st).thenOk (fun tl tr => cl!"(or " ++ tl ++ cl!" " ++ tr ++ cl!")") (compileExpr clk b) :=
  compileExpr.bin_eq _ _ _

/-- What a successful run of `compileExpr` is an instance of (`Emits.of_ok`).  `.global`, `.positional`
    and `.prec` nodes have no derivation: they are refused. -/
inductive Emits (clk : Nat → Nat) : Expr → CState → Text → CState → Prop
  | test {t st txt st'} : compileTest clk t st = .ok (txt, st') → Emits clk (.test t) st txt st'
  | action {a st txt st'} : compileAction a st = .ok (txt, st') → Emits clk (.action a) st txt st'
  | not {e st txt st'} : Emits clk e st txt st' → Emits clk (.not e) st (cl!"(not " ++ txt ++ cl!")") st'
  | and {a b st ta s1 tb s2} : Emits clk a st ta s1 → Emits clk b s1 tb s2 →
      Emits clk (.and a b) st (cl!"(and " ++ ta ++ cl!" " ++ tb ++ cl!")") s2
  | list {a b st ta s1 tb s2} : Emits clk a st ta s1 → Emits clk b s1 tb s2 →
      Emits clk (.list a b) st (cl!"(and " ++ ta ++ cl!" " ++ tb ++ cl!")") s2
  | or {a b st ta s1 tb s2} : Emits clk a st ta s1 → Emits clk b s1 tb s2 →
      Emits clk (.or a b) st (cl!"(or " ++ ta ++ cl!" " ++ tb ++ cl!")") s2

theorem Emits.of_ok {clk : Nat → Nat} {e : Expr} {st st' : CState} {txt : Text}
    (h : compileExpr clk e st = .ok (txt, st')) : Emits clk e st txt st' := by
  induction e generalizing st txt st' with
  | test t => exact .test h
  | action a => exact .action h
  | global g | positional p | prec e _ => cases h
  | not e ih =>
    rw [compileExpr_not] at h
    obtain ⟨t, h1, rfl⟩ := CRes.mapOk_ok_iff.mp h
    exact .not (ih h1)
  | and a b iha ihb | list a b iha ihb | or a b iha ihb =>
    simp only [compileExpr_and, compileExpr_list, compileExpr_or] at h
    obtain ⟨tl, s1, tr, h1, h2, rfl⟩ := CRes.thenOk_ok_iff.mp h
    constructor
    · exact iha h1
    · exact ihb h2

theorem compileTest_xattrMatch (clk : Nat → Nat) (f v : Text) (st : CState) :
    compileTest clk (.xattrMatch f v) st =
      .ok (if !(f.any isOffending || v.any isOffending) then
          cl!"(equal? (xattr-ref-string \"" ++ schemeEscape f ++ cl!"\") \"" ++ schemeEscape v ++ cl!"\")"
        else cl!"(xattr-match? \"" ++ schemeEscape f ++ cl!"\" \"" ++ schemeEscape v ++ cl!"\")", st) := by
  show (if _ then _ else _) = _
  split <;> rfl

theorem placeholder_accessFormatted (c : Char) :
    placeholder (.accessFormatted c) = some (if c = '@' then cl!"~d" else cl!"~a") := by
  show (if c = '@' then _ else _) = _
  split <;> rfl

theorem placeholder_changeFormatted (c : Char) :
    placeholder (.changeFormatted c) = some (if c = '@' then cl!"~d" else cl!"~a") := by
  show (if c = '@' then _ else _) = _
  split <;> rfl

theorem placeholder_modifyFormatted (c : Char) :
    placeholder (.modifyFormatted c) = some (if c = '@' then cl!"~d" else cl!"~a") := by
  show (if c = '@' then _ else _) = _
  split <;> rfl

def CRes.ofExcept {α : Type} : Except CompileError α → CRes α
  | .ok a => .ok a
  | .error x => .err x

theorem CRes.ofExcept_ok_iff {α : Type} {x : Except CompileError α} {a : α} : ofExcept x = .ok a ↔ x = .ok a := by
  cases x <;> simp [ofExcept]

theorem compileAction_printFormatted (es : List FormatElement) (st : CState) :
    compileAction (.printFormatted es) st = (CRes.ofExcept (compileFormat es)).map fun f =>
      (cl!"(" ++ (st.mgr.getPrinter none).1 ++ cl!" " ++ f ++ cl!")", { st with mgr := (st.mgr.getPrinter none).2 }) := by
  show (match compileFormat es with | .error x => _ | .ok f => _) = _
  cases compileFormat es <;> rfl

theorem compileAction_filePrintFormatted (d : Text) (es : List FormatElement) (st : CState) :
    compileAction (.filePrintFormatted d es) st = (CRes.ofExcept (compileFormat es)).map fun f =>
      (cl!"(" ++ (st.mgr.getFilePrinter d none).1 ++ cl!" " ++ f ++ cl!")", { st with mgr := (st.mgr.getFilePrinter d none).2 }) := by
  show (match compileFormat es with | .error x => _ | .ok f => _) = _
  cases compileFormat es <;> rfl

def isTimeTest : Test → Bool
  | .accessTime _ | .changeTime _ | .modifyTime _ => true
  | _ => false

theorem compileTest_ok {clk : Nat → Nat} {t : Test} {st st' : CState} {txt : Text}
    (h : compileTest clk t st = .ok (txt, st')) :
    (isTimeTest t = true ∧ st' = { st with reads := st.reads + 1 }) ∨
    (isTimeTest t = false ∧ (st' = st ∨ ∃ s ci, st' = { st with mgr := (st.mgr.getMatcher s ci).2 })) := by
  cases t with
  | accessTime c | changeTime c | modifyTime c => cases h; exact .inl ⟨rfl, rfl⟩
  | insensitiveName s | insensitivePath s | name s | path s => cases h; exact .inr ⟨rfl, .inr ⟨s, _, rfl⟩⟩
  | empty | executable | false_ | readable | true_ | writable | groupId c | inodeNumber c | links c | mirrorCount c
  | stripeCount c | userId c | perm p | pool s | size c | type l | xattr s => cases h; exact .inr ⟨rfl, .inl rfl⟩
  | xattrMatch f v => rw [compileTest_xattrMatch] at h; cases h; exact .inr ⟨rfl, .inl rfl⟩
  | accessNewer s | changeNewer s | fsType s | group s | insensitiveLinkName s | insensitiveRegex s | linkName s
  | modifyNewer s | noGroup | noUser | regex s | samefile s | user s => cases h

theorem compileAction_ok {a : Action} {st st' : CState} {txt : Text} (h : compileAction a st = .ok (txt, st')) :
    (Spec.target a = none ∧ st' = st) ∨
    ∃ tg, Spec.target a = some tg ∧ st' = { st with mgr := (st.mgr.request tg).2 } := by
  cases a with
  | prune | list | fileList s => cases h
  | defaultPrint | printFid | quit => cases h; exact .inl ⟨rfl, rfl⟩
  | print | printNull | filePrint d | filePrintNull d => cases h; exact .inr ⟨_, rfl, rfl⟩
  | printFormatted es | filePrintFormatted d es =>
    simp only [compileAction_printFormatted, compileAction_filePrintFormatted] at h
    obtain ⟨f, _, hp⟩ := CRes.map_ok_iff.mp h
    cases hp
    exact .inr ⟨_, rfl, rfl⟩

theorem Emits.keeps {P : Manager → Prop} (hP : Grows.Keeps P) {clk : Nat → Nat} {e : Expr} {st st' : CState} {txt : Text}
    (h : Emits clk e st txt st') : P st.mgr → P st'.mgr := by
  induction h with
  | test h =>
    rcases compileTest_ok h with ⟨_, rfl⟩ | ⟨_, rfl | ⟨s, ci, rfl⟩⟩
    · exact id
    · exact id
    · exact getMatcher_keeps hP _ s ci
  | action h =>
    rcases compileAction_ok h with ⟨_, rfl⟩ | ⟨tg, _, rfl⟩
    · exact id
    · exact request_keeps hP _ tg
  | not _ ih => exact ih
  | and _ _ iha ihb | list _ _ iha ihb | or _ _ iha ihb => exact fun h => ihb (iha h)

/-- The tree the policy is generated from (C09). -/
def policyTree (e : Expr) : Expr := if !e.hasAction then Expr.and e (.action .defaultPrint) else e

def initialManager (e : Expr) : Manager := if e.complexFrames then Manager.distInit else Manager.localInit

theorem initialManager_cases {P : Manager → Prop} (hd : P Manager.distInit) (hl : P Manager.localInit) (e : Expr) :
    P (initialManager e) := by
  unfold initialManager; split
  · exact hd
  · exact hl

namespace Scheme
def optionsT (o : RunOptions) : Text :=
  match o.threads with
  | some c => nat c
  | none => cl!"(lipe-getopt-thread-count)"
end Scheme

def Compiled.ofRun (o : RunOptions) (p : Text × CState) : Compiled :=
  { policyBody := p.1, options := Scheme.optionsT o,
    modules := p.2.mgr.modules, definitions := p.2.mgr.definitions, initialization := p.2.mgr.initialization,
    terminate := p.2.mgr.terminate, ioMap := p.2.mgr.printerMap }

theorem compile_eq (clk : Nat → Nat) (e : Expr) (o : RunOptions) :
    compile clk e o = (compileExpr clk (policyTree e) { mgr := initialManager e }).map (Compiled.ofRun o) := by
  unfold compile
  change (match compileExpr clk (policyTree e) { mgr := initialManager e } with
    | .err x => CRes.err x
    | .panic s => CRes.panic s
    | .ok (body, st) => CRes.ok (Compiled.ofRun o (body, st))) = _
  cases compileExpr clk (policyTree e) { mgr := initialManager e } <;> rfl

theorem compile_unfold (clk : Nat → Nat) (e : Expr) (o : RunOptions) (c : Compiled) (h : compile clk e o = .ok c) :
    ∃ body st, compileExpr clk (policyTree e) { mgr := initialManager e } = .ok (body, st) ∧
      c.policyBody = body ∧ c.ioMap = st.mgr.printerMap ∧ c.definitions = st.mgr.definitions ∧
      c.options = Scheme.optionsT o := by
  rw [compile_eq] at h
  obtain ⟨⟨body, st⟩, hc, rfl⟩ := CRes.map_ok_iff.mp h
  exact ⟨body, st, hc, rfl, rfl, rfl, rfl⟩

def CRes.state {α : Type} : CRes (α × CState) → CRes CState
  | .ok (_, s) => .ok s
  | .err e => .err e
  | .panic s => .panic s

theorem CRes.state_eq_ok {α : Type} {x : CRes (α × CState)} {s : CState} (h : x.state = .ok s) : ∃ t, x = .ok (t, s) := by
  rcases x with ⟨t, s'⟩ | e | p <;> cases h
  exact ⟨t, rfl⟩

end FV

import FindVerif.Model.Parse
/- `ParserError::dispatch` on the context lists the lexer produces. -/
namespace FV

/-- `cp` holds none of the three category labels (so it is with what the argument readers push:
    `benign_of_labels`). -/
def Benign (cp : List Ctx) : Prop :=
  ∀ l, Ctx.label l ∈ cp → l ≠ cl!"test" ∧ l ≠ cl!"action" ∧ l ≠ cl!"global_option"

theorem Benign.nil : Benign [] := fun _ hl => nomatch hl

theorem Benign.cons_expected {d : Text} {cp : List Ctx} : Benign (.expected d :: cp) ↔ Benign cp :=
  ⟨fun h l hl => h l (List.mem_cons_of_mem _ hl), fun h l hl => h l ((List.mem_cons.1 hl).resolve_left nofun)⟩

theorem Benign.cons_label {l : Text} {cp : List Ctx} :
    Benign (.label l :: cp) ↔ (l ≠ cl!"test" ∧ l ≠ cl!"action" ∧ l ≠ cl!"global_option") ∧ Benign cp :=
  ⟨fun h => ⟨h l (List.mem_cons_self ..), fun m hm => h m (List.mem_cons_of_mem _ hm)⟩,
   fun ⟨h0, h⟩ m hm => (List.mem_cons.1 hm).elim (fun e => by cases e; exact h0) (h m)⟩

/-- The innermost description (first `expected` in push order). -/
def innerDescription : List Ctx → Option Text
  | [] => none
  | .expected d :: _ => some d
  | .label _ :: r => innerDescription r

/-- The word `dispatch` quotes: the next word at the failure position, or nothing. -/
def nextWord (rest : Text) : Text :=
  match parseString rest with
  | .ok w _ => w
  | _ => []

/-- No category of the context is still waiting for its name. -/
def Settled (sc : SyntaxContext) : Prop :=
  expecting sc.test = false ∧ expecting sc.action = false ∧ expecting sc.global = false

theorem expecting_some {t : Text} (h : t ≠ []) : expecting (some t) = false := by
  cases t with
  | nil => exact absurd rfl h
  | cons _ _ => rfl

theorem step_label_settled {sc : SyntaxContext} {l : Text} (hs : Settled sc)
    (h1 : l ≠ cl!"test") (h2 : l ≠ cl!"action") (h3 : l ≠ cl!"global_option") : sc.step (.label l) = sc := by
  simp only [SyntaxContext.step, if_neg h1, if_neg h2, if_neg h3, hs.1, hs.2.1, hs.2.2, Bool.false_eq_true, if_false]

theorem fold_benign (cp : List Ctx) (h : Benign cp) (sc : SyntaxContext) (hs : Settled sc) :
    cp.reverse.foldl SyntaxContext.step sc = { sc with description := (innerDescription cp).or sc.description } := by
  induction cp with
  | nil => rfl
  | cons c cp ih =>
    rw [List.reverse_cons, List.foldl_append]
    cases c with
    | expected d => rw [ih (Benign.cons_expected.1 h)]; rfl
    | label l =>
      obtain ⟨⟨h1, h2, h3⟩, h⟩ := Benign.cons_label.1 h
      rw [ih h]
      exact step_label_settled hs h1 h2 h3

theorem dispatch_inner (cp outer : List Ctx) (rest : Text) (h : Benign cp) (sc : SyntaxContext)
    (hsc : outer.reverse.foldl SyntaxContext.step {} = sc) (hs : Settled sc) (hd : sc.description = none) :
    dispatch (cp ++ outer) rest =
      match sc.test, sc.action, sc.global, innerDescription cp with
      | some t, _, _, some d => .invalidTestArgument t (nextWord rest) (explain d)
      | some t, _, _, none => .invalidTestUnknown t (nextWord rest)
      | _, some a, _, some d => .invalidActionArgument a (nextWord rest) (explain d)
      | _, some a, _, none => .invalidActionUnknown a (nextWord rest)
      | _, _, some g, some d => .invalidGlobalArgument g (nextWord rest) (explain d)
      | _, _, some g, none => .invalidGlobalUnknown g (nextWord rest)
      | _, _, _, _ => .invalidToken (nextWord rest) := by
  simp only [dispatch, List.reverse_append, List.foldl_append, hsc, fold_benign cp h sc hs, hd, Option.or_none]
  rfl

theorem dispatch_test (cp : List Ctx) (kw rest : Text) (h : Benign cp) (hk : kw ≠ []) (hkt : kw ≠ cl!"test") :
    dispatch (cp ++ [label kw, label (cl!"test"), label (cl!"syntax")]) rest =
      match innerDescription cp with
      | some d => .invalidTestArgument kw (nextWord rest) (explain d)
      | none => .invalidTestUnknown kw (nextWord rest) := by
  rw [dispatch_inner cp _ rest h { test := some kw } (by simp [SyntaxContext.step, label, expecting, hkt])
    ⟨expecting_some hk, rfl, rfl⟩ rfl]
  cases innerDescription cp <;> rfl

theorem dispatch_action (cp : List Ctx) (kw rest : Text) (h : Benign cp) (hk : kw ≠ [])
    (hkt : kw ≠ cl!"test") (hka : kw ≠ cl!"action") :
    dispatch (cp ++ [label kw, label (cl!"action"), label (cl!"syntax")]) rest =
      match innerDescription cp with
      | some d => .invalidActionArgument kw (nextWord rest) (explain d)
      | none => .invalidActionUnknown kw (nextWord rest) := by
  rw [dispatch_inner cp _ rest h { action := some kw } (by simp [SyntaxContext.step, label, expecting, hkt, hka])
    ⟨rfl, expecting_some hk, rfl⟩ rfl]
  cases innerDescription cp <;> rfl

/-- `tail`: an option inside the expression fails under `token`'s `syntax` label, one of the leading
    run (`leadingGlobals`) without it. -/
theorem dispatch_global (cp : List Ctx) (kw rest : Text) (h : Benign cp) (hk : kw ≠ [])
    (hkt : kw ≠ cl!"test") (hka : kw ≠ cl!"action") (hkg : kw ≠ cl!"global_option") (tail : List Ctx)
    (htail : tail = [] ∨ tail = [label (cl!"syntax")]) :
    dispatch (cp ++ [label kw, label (cl!"global_option")] ++ tail) rest =
      match innerDescription cp with
      | some d => .invalidGlobalArgument kw (nextWord rest) (explain d)
      | none => .invalidGlobalUnknown kw (nextWord rest) := by
  rw [List.append_assoc, dispatch_inner cp _ rest h { global := some kw }
    (by rcases htail with rfl | rfl <;> simp [SyntaxContext.step, label, expecting, hkt, hka, hkg])
    ⟨rfl, rfl, expecting_some hk⟩ rfl]
  cases innerDescription cp <;> rfl

theorem dispatch_unknown (rest : Text) :
    dispatch [expected (cl!"invalid_token"), label (cl!"syntax")] rest = .invalidToken (nextWord rest) :=
  dispatch_inner [expected (cl!"invalid_token")] [label (cl!"syntax")] rest (Benign.cons_expected.2 .nil)
    {} (by simp [SyntaxContext.step, label, expecting]) ⟨rfl, rfl, rfl⟩ rfl

end FV

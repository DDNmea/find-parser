import FindVerif.Proofs.Read.Render
import FindVerif.Proofs.CompileRun
/-
  The `format` call.  Its template is the one string literal that is not `schemeEscape` of its value
  (control characters named by an escape of the format string keep their short form `\n`, `\a`, …),
  so template and value are related piece by piece through `EscapesTo`.
-/
namespace FV
namespace Scheme

def ExceptRel {α β : Type} (R : α → β → Prop) : Except CompileError α → Except CompileError β → Prop
  | .ok a, .ok b => R a b
  | .error e, .error e' => e' = e
  | _, _ => False

theorem escapes_plain (t : Text) (h : ∀ c ∈ t, c ≠ '"' ∧ c ≠ '\\') : EscapesTo t t := by
  induction t with
  | nil => exact .nil
  | cons c cs ih => exact .plain c _ _ (h c (by simp)).1 (h c (by simp)).2 (ih (fun x hx => h x (by simp [hx])))

theorem escapes_placeholder (f : FormatField) (ph : Text) (h : placeholder f = some ph) : EscapesTo ph ph := by
  apply escapes_plain
  cases f with
  | depth | deviceNumber | fsType | symbolicTarget | permissionsSymbolic | typeSymlink | securityContext => cases h
  | accessFormatted c | changeFormatted c | modifyFormatted c =>
    simp only [placeholder_accessFormatted, placeholder_changeFormatted, placeholder_modifyFormatted] at h
    cases h
    split <;> decide
  | _ => cases h; decide

theorem element_rel (e : FormatElement) : ExceptRel EscapesTo (elementTemplate e) (elementValue e) := by
  cases e with
  | literal s => exact escapes_template s
  | field f =>
    simp only [elementTemplate, elementValue]
    cases hp : placeholder f with
    | none => exact rfl
    | some ph => exact escapes_placeholder f ph hp
  | special v =>
    cases v with
    | clear => exact rfl
    | ascii n => exact escapes_template _
    -- the short escapes `\a`, `\n`, …, where `schemeEscape` writes a control character as `\xH;`
    | _ => exact .esc _ _ _ _ rfl .nil

theorem templateOf_rel : ∀ (es : List FormatElement), ExceptRel EscapesTo (templateOf es) (templateValue es)
  | [] => EscapesTo.nil
  | e :: es => by
    simp only [templateOf, templateValue]
    match elementTemplate e, elementValue e, element_rel e with
    | .error _, .error _, rfl => exact rfl
    | .ok _, .ok _, he =>
      match templateOf es, templateValue es, templateOf_rel es with
      | .error _, .error _, rfl => exact rfl
      | .ok _, .ok _, hr => exact EscapesTo.append he hr

/-- A field without argument shows as `none` or (`%%`) as the empty text; one with an argument as the text
    between its parentheses. -/
def ItemPrints : Option SExp → Option Text → Prop
  | none, none => True
  | none, some b => b = []
  | some x, some b => b ≠ [] ∧ Prints x (cl!"(" ++ b ++ cl!")")
  | some _, none => False

theorem item_strftime (c : Char) (field : Text) (hf : GoodSym field) :
    ItemPrints (some (strftimeItem c field)) (some (strftimeSnippet c field)) := by
  unfold strftimeItem strftimeSnippet
  split
  · exact ⟨hf.ne, .of_render rfl (by simpa using hf)⟩
  · refine ⟨List.cons_ne_nil _ _, .of_render ?_ (by simp [hf]; decide +kernel)⟩
    simp only [List.append_assoc]
    rfl

theorem item_prints (f : FormatField) : ItemPrints (itemS f) (snippetBody f) := by
  cases f with
  | percent => exact rfl
  | depth | deviceNumber | fsType | symbolicTarget | permissionsSymbolic | typeSymlink | securityContext => exact trivial
  | accessFormatted c | changeFormatted c | modifyFormatted c => exact item_strftime c _ (by decide +kernel)
  | xattr a =>
    refine ⟨List.cons_ne_nil _ _, .of_render ?_ (by simp; decide +kernel)⟩
    simp only [List.append_assoc]
    rfl
  | permissionsOctal =>
    -- the one number the generator writes in octal: `render` would write 4095
    exact ⟨by decide, prints_list [(sy (cl!"logand"), cl!"logand"), (call (cl!"mode") [], cl!"(mode)"), (.num 0o7777, cl!"#o07777")]
      ⟨Prints.sym (by decide +kernel), .of_render rfl (by decide +kernel), Prints.oct7777, trivial⟩⟩
  | _ => exact ⟨by decide, .of_render rfl (by decide +kernel)⟩

theorem items_pairs : ∀ (es : List FormatElement), ∃ pairs : List (SExp × Text),
    itemsS es = pairs.map (·.1) ∧ itemsOf es = pairs.map (·.2) ∧ PrintsAll pairs
  | [] => ⟨[], rfl, rfl, trivial⟩
  | .literal _ :: es | .special _ :: es => items_pairs es
  | .field f :: es => by
    obtain ⟨pairs, h1, h2, h3⟩ := items_pairs es
    simp only [itemsS, itemsOf, List.filterMap_cons]
    match itemS f, snippetBody f, item_prints f with
    | none, none, _ => exact ⟨pairs, h1, h2, h3⟩
    | none, some _, rfl => exact ⟨pairs, h1, h2, h3⟩
    | some x, some b, ⟨hb, hx⟩ =>
      refine ⟨(x, cl!"(" ++ b ++ cl!")") :: pairs, congrArg (x :: ·) h1, ?_, hx, h3⟩
      simp only [show b.isEmpty = false by simpa using hb, Bool.false_eq_true, if_false]
      exact congrArg (_ :: ·) h2

theorem format_rel (es : List FormatElement) : ExceptRel (fun t x => Prints x t) (compileFormat es) (genFormat es) := by
  simp only [compileFormat, genFormat]
  match templateOf es, templateValue es, templateOf_rel es with
  | .error _, .error _, rfl => exact rfl
  | .ok tmpl, .ok val, ht =>
    obtain ⟨pairs, hp1, hp2, hp3⟩ := items_pairs es
    -- the blank after the template literal is written even when no item follows
    have := Prints.list (prints_spaced
      [canon (sy (cl!"format")) (cl!" "), canon (.bool false) (cl!" "), ((.str val, _), cl!" ")]
      ⟨prints_render _ (by decide +kernel), Prints.boolF, Prints.strOf ht, trivial⟩ rfl
      (printsSeq_join (cl!" ") (by decide) (by decide) pairs hp3))
    simp only [spacedText, canon, List.append_assoc] at this
    simp only [ExceptRel, hp1, hp2, List.append_assoc]
    exact this

end Scheme
end FV

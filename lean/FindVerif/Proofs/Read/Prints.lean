import FindVerif.Proofs.Escape
import FindVerif.Proofs.Dec
import FindVerif.Proofs.Names
import FindVerif.Model.GenS
/-
  "This text reads as this datum, whatever follows that cannot continue a token" (`Prints`,
  `DelimStart`), closed under the ways the generator puts texts together; then the atoms (`GoodSym`:
  what the reader takes for a symbol), and the symbols the generator writes that are not literals of
  its text (operators chosen by a comparison, generated names).
-/
namespace FV
namespace Scheme

def DelimStart (rest : Text) : Prop := ∀ c r, rest = c :: r → isDelim c = true

theorem DelimStart.nil : DelimStart [] := by intro c r h; cases h
theorem DelimStart.cons {c : Char} {r : Text} (h : isDelim c = true) : DelimStart (c :: r) := by
  intro c' r' he; cases he; exact h

def Starts (t : Text) : Prop := ∃ c cs, t = c :: cs ∧ isWs c = false ∧ c ≠ ';' ∧ c ≠ ')'

structure Prints (s : SExp) (t : Text) : Prop where
  starts : Starts t
  reads : ∀ (rest : Text) (fuel : Nat), DelimStart rest → t.length < fuel → read1 fuel (t ++ rest) = some (s, rest)

/-- `t` is the text between the parentheses of the list `items`. -/
def PrintsSeq (items : List SExp) (t : Text) : Prop :=
  ∀ (rest : Text) (fuel : Nat), t.length + 1 < fuel → readSeq fuel (t ++ ')' :: rest) = some (items, rest)

theorem PrintsSeq.nil : PrintsSeq [] [] := by
  intro rest fuel h
  cases fuel with
  | zero => omega
  | succ f => simp [readSeq, isWs]

theorem PrintsSeq.ws {items : List SExp} {t : Text} (c : Char) (hc : isWs c = true) (h : PrintsSeq items t) :
    PrintsSeq items (c :: t) := by
  intro rest fuel hf
  cases fuel with
  | zero => omega
  | succ f =>
    simp only [List.cons_append, readSeq, hc, if_true]
    exact h rest f (by simp at hf; omega)

theorem PrintsSeq.wss {items : List SExp} {t : Text} (w : Text) (hw : ∀ c ∈ w, isWs c = true) (h : PrintsSeq items t) :
    PrintsSeq items (w ++ t) := by
  induction w with
  | nil => exact h
  | cons c cs ih =>
    exact PrintsSeq.ws c (hw c (by simp)) (ih (fun x hx => hw x (by simp [hx])))

theorem DelimStart.blanks {w : Text} (hw : ∀ c ∈ w, isWs c = true) (hne : w ≠ []) (t : Text) : DelimStart (w ++ t) := by
  cases w with
  | nil => exact absurd rfl hne
  | cons c cs => exact .cons (by simp [isDelim, hw c])

theorem PrintsSeq.cons {s : SExp} {t : Text} {items : List SExp} {r : Text}
    (ht : Prints s t) (hr : PrintsSeq items r) (hd : DelimStart r) : PrintsSeq (s :: items) (t ++ r) := by
  intro rest fuel hf
  obtain ⟨c, cs, rfl, hws, hsc, hcl⟩ := ht.starts
  cases fuel with
  | zero => omega
  | succ f =>
    have hdr : DelimStart (r ++ ')' :: rest) := by
      cases r with
      | nil => exact .cons (by decide)
      | cons x xs => exact .cons (hd x xs rfl)
    have h1 := ht.reads (r ++ ')' :: rest) f hdr (by simp at hf ⊢; omega)
    simp only [List.cons_append, List.append_assoc] at h1 ⊢
    simp only [readSeq, hws, Bool.false_eq_true, if_false, hsc, hcl]
    rw [h1]
    simp only
    rw [hr rest f (by simp at hf ⊢; omega)]

theorem PrintsSeq.single {s : SExp} {t : Text} (h : Prints s t) : PrintsSeq [s] t := by
  have := PrintsSeq.cons h PrintsSeq.nil DelimStart.nil
  rwa [List.append_nil] at this

theorem Prints.list {items : List SExp} {t : Text} (h : PrintsSeq items t) : Prints (.list items) (cl!"(" ++ t ++ cl!")") := by
  refine ⟨⟨'(', t ++ [')'], rfl, by decide, by decide, by decide⟩, ?_⟩
  intro rest fuel _ hf
  cases fuel with
  | zero => omega
  | succ f =>
    have hws : isWs '(' = false := by decide
    simp only [List.cons_append, List.nil_append, List.append_assoc, read1, hws, Bool.false_eq_true, if_false,
      show ¬ ('(' = ';') by decide, if_true]
    rw [h rest f (by simp at hf ⊢; omega)]

theorem takeWhile_nondelim (x rest : Text) (hx : ∀ c ∈ x, isDelim c = false) (hr : DelimStart rest) :
    (x ++ rest).takeWhile (fun d => !isDelim d) = x ∧ (x ++ rest).dropWhile (fun d => !isDelim d) = rest := by
  refine run_split (fun c hc => by rw [hx c hc]; rfl) ?_
  cases rest with
  | nil => exact .inl rfl
  | cons d ds => exact .inr ⟨d, ds, rfl, by rw [hr d ds rfl]; rfl⟩

theorem nondelim_iff (c : Char) : isDelim c = false ↔ isWs c = false ∧ c ≠ '(' ∧ c ≠ ')' ∧ c ≠ '"' ∧ c ≠ ';' := by
  simp only [isDelim, Bool.or_eq_false_iff, decide_eq_false_iff_not, and_assoc]

theorem Starts.of_nondelim {c : Char} {cs : Text} (h : isDelim c = false) : Starts (c :: cs) :=
  have h := (nondelim_iff c).mp h
  ⟨c, cs, rfl, h.1, h.2.2.2.2, h.2.2.1⟩

theorem read1_token {c : Char} {cs tok rest : Text} {s : SExp} (fuel : Nat) (hc : isDelim c = false)
    (htk : takeTok (c :: cs) = (tok, rest)) (hcl : classify tok = some s) :
    read1 (fuel + 1) (c :: cs) = some (s, rest) := by
  have h := (nondelim_iff c).mp hc
  simp only [read1, h.1, Bool.false_eq_true, if_false, h.2.1, h.2.2.1, h.2.2.2.1, h.2.2.2.2, htk, hcl]

theorem takeTok_nondelim {c : Char} {cs rest : Text} (hnd : ∀ d ∈ c :: cs, isDelim d = false)
    (hnc : ¬ (∃ r, c :: cs = '#' :: '\\' :: r)) (hr : DelimStart rest) : takeTok (c :: (cs ++ rest)) = (c :: cs, rest) := by
  obtain ⟨h1, h2⟩ := takeWhile_nondelim (c :: cs) rest hnd hr
  rw [List.cons_append] at h1 h2
  unfold takeTok
  split
  · rename_i c1 rest1 heq
    refine absurd ?_ hnc
    cases cs with
    | nil =>
      -- the backslash would be the first character of `rest`, which starts with a delimiter
      obtain ⟨rfl, heq2⟩ : c = '#' ∧ rest = '\\' :: c1 :: rest1 := by simpa using heq
      exact absurd (hr '\\' _ heq2) (by decide)
    | cons c2 cs2 =>
      obtain ⟨rfl, rfl, _⟩ : c = '#' ∧ c2 = '\\' ∧ cs2 ++ rest = c1 :: rest1 := by simpa using heq
      exact ⟨cs2, rfl⟩
  · rw [h1, h2]

theorem Prints.token {x : Text} {s : SExp} (hnd : ∀ d ∈ x, isDelim d = false)
    (hnc : ¬ (∃ r, x = '#' :: '\\' :: r)) (hcl : classify x = some s) : Prints s x := by
  cases x with
  | nil => cases hcl
  | cons c cs =>
    have hc : isDelim c = false := hnd c (by simp)
    refine ⟨.of_nondelim hc, fun rest fuel hr hf => ?_⟩
    cases fuel with
    | zero => omega
    | succ f => exact read1_token f hc (takeTok_nondelim hnd hnc hr) hcl

theorem Prints.concrete (x : Text) (s : SExp) (c : Char) (cs : Text) (hx : x = c :: cs)
    (hnd : ∀ d ∈ x, isDelim d = false) (hnc : ¬ (∃ r, x = '#' :: '\\' :: r)) (hcl : classify x = some s) : Prints s x := by
  subst hx
  exact .token hnd hnc hcl

structure GoodSym (x : Text) : Prop where
  ne : x ≠ []
  nd : ∀ d ∈ x, isDelim d = false
  nohash : x.head? ≠ some '#'
  notnum : x.all isDigit = false

instance (x : Text) : Decidable (GoodSym x) :=
  decidable_of_iff (x ≠ [] ∧ (∀ d ∈ x, isDelim d = false) ∧ x.head? ≠ some '#' ∧ x.all isDigit = false)
    ⟨fun ⟨a, b, c, d⟩ => ⟨a, b, c, d⟩, fun h => ⟨h.ne, h.nd, h.nohash, h.notnum⟩⟩

theorem goodSym_of_decide (x : Text) (h1 : x ≠ []) (h2 : ∀ d ∈ x, isDelim d = false) (h3 : x.head? ≠ some '#')
    (h4 : x.all isDigit = false) : GoodSym x := ⟨h1, h2, h3, h4⟩

/-- Every clause of `classify` but the first and the last is for a token that starts with `#`. -/
theorem classify_nohash (x : Text) (hne : x ≠ []) (hh : x.head? ≠ some '#') :
    classify x = if x.all isDigit then some (.num (decVal x)) else some (.sym x) := by
  unfold classify
  split
  case h_1 => exact absurd rfl hne
  case h_8 => rfl
  all_goals exact absurd rfl hh

theorem Prints.sym {x : Text} (h : GoodSym x) : Prints (.sym x) x :=
  .token h.nd (by rintro ⟨r, rfl⟩; exact h.nohash rfl) (by rw [classify_nohash x h.ne h.nohash, h.notnum]; rfl)

theorem digit_nondelim (c : Char) (h : isDigit c = true) : isDelim c = false := by
  refine Bool.eq_false_iff.mpr fun hd => ?_
  have nine : ∀ d ∈ [' ', '\n', '\t', '\r', '\x0c', '(', ')', '"', ';'], isDigit d ≠ true := by decide
  exact nine c (by simpa [isDelim, isWs, or_assoc] using hd) h

theorem Prints.num (n : Nat) : Prints (.num n) (natToDec n) := by
  have hne := natToDec_ne_nil n
  have hd := natToDec_digits n
  have hh : (natToDec n).head? ≠ some '#' := by
    intro h
    exact absurd (hd '#' (List.mem_of_mem_head? h)) (by decide)
  refine .token (fun d hm => digit_nondelim d (hd d hm)) (by rintro ⟨r, hr⟩; exact hh (by rw [hr]; rfl)) ?_
  rw [classify_nohash _ hne hh, List.all_eq_true.mpr hd, decVal_natToDec]
  rfl

theorem Prints.boolT : Prints (.bool true) (cl!"#t") :=
  .token (by decide) (by rintro ⟨r, hr⟩; cases hr) rfl

theorem Prints.boolF : Prints (.bool false) (cl!"#f") :=
  .token (by decide) (by rintro ⟨r, hr⟩; cases hr) rfl

theorem Prints.oct7777 : Prints (.num 0o7777) (cl!"#o07777") :=
  .token (by decide) (by rintro ⟨r, hr⟩; cases hr) rfl

theorem Prints.chr (n : Nat) : Prints (.chr n) (cl!"#\\x" ++ natToHex02 n) := by
  have hnum := hexNum_natToHex02 n
  have hnd := natToHex02_nondelim n
  refine ⟨.of_nondelim (c := '#') (by decide), fun rest fuel hr hf => ?_⟩
  cases fuel with
  | zero => omega
  | succ f =>
    obtain ⟨h1, h2⟩ := takeWhile_nondelim (natToHex02 n) rest hnd hr
    have htk : takeTok ('#' :: '\\' :: 'x' :: (natToHex02 n ++ rest)) = ('#' :: '\\' :: 'x' :: natToHex02 n, rest) := by
      simp only [takeTok, h1, h2]
    refine read1_token f (by decide) htk ?_
    cases hh : natToHex02 n with
    | nil => rw [hh] at hnum; cases hnum
    | cons a as => rw [hh] at hnum; simp [classify, hnum]

theorem Prints.strOf {txt val : Text} (h : EscapesTo txt val) : Prints (.str val) ('"' :: txt ++ ['"']) := by
  refine ⟨⟨'"', _, rfl, by decide, by decide, by decide⟩, ?_⟩
  intro rest fuel _ hf
  cases fuel with
  | zero => omega
  | succ f => simpa using read1_quoted h rest f

theorem Prints.str (s : Text) : Prints (.str s) ('"' :: schemeEscape s ++ ['"']) :=
  Prints.strOf (schemeEscape_escapesTo s)

theorem kind_nondelim (k : Kind) : ∀ d ∈ k.text, isDelim d = false := by
  cases k <;> decide

theorem letters_nondelim : ∀ d ∈ (cl!"match"), isDelim d = false := kind_nondelim .match_

theorem goodSym_gname (g : GName) : GoodSym g.text := by
  refine ⟨by simp [GName.text, lf3], ?_, by simp [GName.text, lf3], by simp [GName.text, lf3, isDigit]⟩
  intro d hd
  simp only [GName.text, lf3, List.mem_append] at hd
  rcases hd with ((hd | hd) | hd) | hd
  · revert d; decide
  · exact kind_nondelim g.kind d hd
  · revert d; decide
  · exact digit_nondelim d (natToDec_digits g.idx d hd)

theorem goodSym_cmp {α : Type} (c : Comparison α) : GoodSym (cmpOp c) := by
  cases c <;> (simp only [cmpOp]; decide +kernel)

theorem goodSym_matcherName (pat : Text) (ci : Bool) : GoodSym (matcherName pat ci ++ cl!"?") := by
  unfold matcherName
  cases isPattern pat <;> cases ci <;> decide +kernel

end Scheme
end FV

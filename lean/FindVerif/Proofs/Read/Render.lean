import FindVerif.Proofs.Read.Prints
/-
  The canonical printer: one blank between the items of a list, decimal numbers, `#\xHH`
  characters, strings escaped by `schemeEscape`.  What it prints reads back (`prints_render`), so
  wherever the generator writes canonically, "the text reads as the datum" is the text equality
  `compileX … = render (genX …)` (`Prints.of_render`).

  `renderK s k` is `render s ++ k`, written with the continuation so that on a datum with text
  variables in it both sides of such an equality unfold to the same right-nested term: the
  generator's left-nested `a ++ x ++ b ++ y ++ c` needs `List.append_assoc` (one rewrite per
  variable), the rest is `rfl`.

  Where the generator's blanks are not the canonical ones, a list is put together from renderings of
  its items: `prints_list`, `printsSeq_join`, `prints_spaced` (the layout of the program's frame).
-/
namespace FV
namespace Scheme

mutual
def renderK : SExp → Text → Text
  | .sym x, k => x ++ k
  | .str s, k => '"' :: (schemeEscape s ++ '"' :: k)
  | .num n, k => natToDec n ++ k
  | .chr n, k => '#' :: '\\' :: 'x' :: (natToHex02 n ++ k)
  | .bool true, k => '#' :: 't' :: k
  | .bool false, k => '#' :: 'f' :: k
  | .list items, k => '(' :: renderSeqK items (')' :: k)
def renderSeqK : List SExp → Text → Text
  | [], k => k
  | [x], k => renderK x k
  | x :: y :: r, k => renderK x (' ' :: renderSeqK (y :: r) k)
end

def render (s : SExp) : Text := renderK s []

mutual
theorem renderK_append : ∀ (s : SExp) (k : Text), renderK s k = render s ++ k
  | .sym x, k => by simp [render, renderK]
  | .str s, k => by simp [render, renderK]
  | .num n, k => by simp [render, renderK]
  | .chr n, k => by simp [render, renderK]
  | .bool true, k => rfl
  | .bool false, k => rfl
  | .list items, k => by
    rw [render, renderK, renderK, renderSeqK_append items (')' :: k), renderSeqK_append items [')']]
    simp
theorem renderSeqK_append : ∀ (items : List SExp) (k : Text), renderSeqK items k = renderSeqK items [] ++ k
  | [], k => rfl
  | [x], k => by rw [renderSeqK, renderSeqK, renderK_append x k]; rfl
  | x :: y :: r, k => by
    rw [renderSeqK, renderSeqK, renderK_append x, renderK_append x (' ' :: _), renderSeqK_append (y :: r) k]
    simp
end

/-- On a closed datum this is settled by `decide +kernel`.  On a datum with generated names or text
    variables in it, `simp` with the lemmas below takes it apart into `GoodSym` of each symbol and closes
    those it is handed a proof for (`goodSym_gname`, a hypothesis); what is left for `decide +kernel` are the
    literal words of the generator's text. -/
def Printable (s : SExp) : Prop := ∀ x ∈ symbols s, GoodSym x
def PrintableL (l : List SExp) : Prop := ∀ x ∈ symbolsL l, GoodSym x

instance (s : SExp) : Decidable (Printable s) := List.decidableBAll _ _

@[simp] theorem printable_sym (x : Text) : Printable (.sym x) ↔ GoodSym x := by simp [Printable, symbols]
@[simp] theorem printable_sy (x : Text) : Printable (sy x) ↔ GoodSym x := printable_sym x
@[simp] theorem printable_str (x : Text) : Printable (.str x) := by simp [Printable, symbols]
@[simp] theorem printable_num (n : Nat) : Printable (.num n) := by simp [Printable, symbols]
@[simp] theorem printable_chr (n : Nat) : Printable (.chr n) := by simp [Printable, symbols]
@[simp] theorem printable_bool (b : Bool) : Printable (.bool b) := by simp [Printable, symbols]
@[simp] theorem printable_list (l : List SExp) : Printable (.list l) ↔ PrintableL l := by simp [Printable, PrintableL, symbols]
@[simp] theorem printableL_nil : PrintableL [] := by simp [PrintableL, symbolsL]
@[simp] theorem printableL_cons (x : SExp) (l : List SExp) : PrintableL (x :: l) ↔ Printable x ∧ PrintableL l := by
  simp only [PrintableL, Printable, symbolsL, List.mem_append]
  exact ⟨fun h => ⟨fun y hy => h y (Or.inl hy), fun y hy => h y (Or.inr hy)⟩, fun h y hy => hy.elim (h.1 y) (h.2 y)⟩
@[simp] theorem printable_call (f : Text) (args : List SExp) : Printable (call f args) ↔ GoodSym f ∧ PrintableL args := by
  simp [call]

mutual
theorem prints_render : ∀ (s : SExp), Printable s → Prints s (render s)
  | .sym x, h => by simpa [render, renderK] using Prints.sym ((printable_sym x).mp h)
  | .str s, _ => Prints.str s
  | .num n, _ => by simpa [render, renderK] using Prints.num n
  | .chr n, _ => by simpa [render, renderK] using Prints.chr n
  | .bool true, _ => Prints.boolT
  | .bool false, _ => Prints.boolF
  | .list items, h => by
    have := Prints.list (printsSeq_render items ((printable_list items).mp h))
    rwa [List.append_assoc, ← renderSeqK_append] at this
theorem printsSeq_render : ∀ (items : List SExp), PrintableL items → PrintsSeq items (renderSeqK items [])
  | [], _ => PrintsSeq.nil
  | [x], h => .single (prints_render x ((printableL_cons x []).mp h).1)
  | x :: y :: r, h => by
    obtain ⟨hx, hr⟩ := (printableL_cons x (y :: r)).mp h
    have := PrintsSeq.cons (prints_render x hx) (PrintsSeq.ws ' ' (by decide) (printsSeq_render (y :: r) hr))
      (DelimStart.cons (by decide))
    rwa [← renderK_append] at this
end

theorem Prints.of_render {s : SExp} {t : Text} (ht : t = render s) (hs : Printable s) : Prints s t :=
  ht ▸ prints_render s hs

/-- A conjunction, so that an explicit list takes a tuple. -/
def PrintsAll : List (SExp × Text) → Prop
  | [] => True
  | p :: ps => Prints p.1 p.2 ∧ PrintsAll ps

theorem PrintsAll.map {α : Type} {f : α → SExp} {g : α → Text} (h : ∀ a, Prints (f a) (g a)) :
    ∀ l : List α, PrintsAll (l.map fun a => (f a, g a))
  | [] => trivial
  | _ :: l => ⟨h _, PrintsAll.map h l⟩

theorem printsSeq_join (sep : Text) (hsep : ∀ c ∈ sep, isWs c = true) (hne : sep ≠ []) :
    ∀ (pairs : List (SExp × Text)), PrintsAll pairs → PrintsSeq (pairs.map (·.1)) (joinWith sep (pairs.map (·.2)))
  | [], _ => PrintsSeq.nil
  | [p], h => .single h.1
  | p :: q :: r, h => by
    have := PrintsSeq.cons h.1 (PrintsSeq.wss sep hsep (printsSeq_join sep hsep hne (q :: r) h.2)) (.blanks hsep hne _)
    simpa [joinWith, List.append_assoc] using this

theorem printsSeq_join_map {α : Type} {f : α → SExp} {g : α → Text} (h : ∀ a, Prints (f a) (g a)) (sep : Text)
    (hsep : ∀ c ∈ sep, isWs c = true) (hne : sep ≠ []) (l : List α) : PrintsSeq (l.map f) (joinWith sep (l.map g)) := by
  have := printsSeq_join sep hsep hne _ (PrintsAll.map h l)
  rwa [List.map_map, List.map_map] at this

theorem prints_list (pairs : List (SExp × Text)) (h : PrintsAll pairs) :
    Prints (.list (pairs.map (·.1))) (cl!"(" ++ joinWith (cl!" ") (pairs.map (·.2)) ++ cl!")") :=
  Prints.list (printsSeq_join (cl!" ") (by decide) (by decide) pairs h)

theorem prints_call2 {f : Text} (hf : GoodSym f) {a b : SExp} {ta tb : Text} (ha : Prints a ta) (hb : Prints b tb) :
    Prints (call f [a, b]) (cl!"(" ++ f ++ cl!" " ++ ta ++ cl!" " ++ tb ++ cl!")") := by
  have := prints_list [(sy f, f), (a, ta), (b, tb)] ⟨Prints.sym hf, ha, hb, trivial⟩
  simp only [List.map_cons, List.map_nil, joinWith, List.append_assoc] at this ⊢
  exact this

def isBlanks (w : Text) : Bool := w.all isWs && !w.isEmpty

def spacedText : List ((SExp × Text) × Text) → Text → Text
  | [], u => u
  | it :: r, u => it.1.2 ++ (it.2 ++ spacedText r u)

def canon (s : SExp) (w : Text) : (SExp × Text) × Text := ((s, render s), w)

theorem prints_spaced : ∀ (items : List ((SExp × Text) × Text)), PrintsAll (items.map (·.1)) →
    (items.map (·.2)).all isBlanks = true → ∀ {rest : List SExp} {u : Text}, PrintsSeq rest u →
    PrintsSeq (items.map (·.1.1) ++ rest) (spacedText items u)
  | [], _, _, _, _, hu => hu
  | x :: r, ⟨hp, hr⟩, hb, _, u, hu => by
    rw [List.map_cons, List.all_cons, Bool.and_eq_true] at hb
    have hw : (∀ c ∈ x.2, isWs c = true) ∧ x.2 ≠ [] := by simpa [isBlanks] using hb.1
    exact PrintsSeq.cons hp (PrintsSeq.wss x.2 hw.1 (prints_spaced r hr hb.2 hu)) (.blanks hw.1 hw.2 _)

end Scheme
end FV

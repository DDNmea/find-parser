import FindVerif.Proofs.Read.Expr
import FindVerif.Proofs.PortsInv
/-
  The whole emitted program reads back as exactly two forms: what a manager contributes (bindings,
  clean-up forms, modules), and the frame `CompiledExpression::scheme` writes around the pieces, for
  ANY pieces that render data.
-/
namespace FV
namespace Scheme

def bindingForm (b : Binding) : SExp := .list [.sym b.sexp.1, b.sexp.2]

theorem prints_binding (b : Binding) : Prints (bindingForm b) b.render := by
  have port : ∀ n, GoodSym (lf3 (cl!"port") n) := fun n => goodSym_gname ⟨.port, n⟩
  have mutex : ∀ n, GoodSym (lf3 (cl!"mutex") n) := fun n => goodSym_gname ⟨.mutex, n⟩
  have print : ∀ n, GoodSym (lf3 (cl!"print") n) := fun n => goodSym_gname ⟨.print, n⟩
  cases b with
  | stdoutPort i | filePort i f | mutex i | printerD i =>
    refine .of_render ?_ (by simp [bindingForm, Binding.sexp, port, mutex, print]; decide +kernel)
    simp only [Binding.render, List.append_assoc]
    rfl
  | printerL i prt mtx term =>
    cases term with
    | none | some c =>
      refine .of_render ?_ (by simp [bindingForm, Binding.sexp, termS, port, mutex, print]; decide +kernel)
      simp only [Binding.render, List.append_assoc]
      rfl
  | matcher i pat ci =>
    have name : GoodSym (lf3 (cl!"match") (i + 1)) := goodSym_gname ⟨.match_, i + 1⟩
    have param : GoodSym (lf3 (cl!"str") i) := goodSym_gname ⟨.str, i⟩
    refine .of_render ?_ (by
      simp [bindingForm, Binding.sexp, matcherBody, name, param, goodSym_matcherName]
      decide +kernel)
    simp only [Binding.render, bindingForm, Binding.sexp, matcherBody, matcherName, List.append_assoc]
    cases isPattern pat <;> cases ci <;> rfl
  | frame => exact .of_render rfl (by decide +kernel)

theorem prints_definitions (m : Manager) : PrintsSeq (m.vars.map bindingForm) m.definitions := by
  unfold Manager.definitions
  split
  · exact printsSeq_join_map prints_binding (cl!"\n       ") (by decide) (by decide) m.vars
  · exact printsSeq_join_map prints_binding (cl!" ") (by decide) (by decide) m.vars

theorem prints_modules (m : Manager) : ∃ mods, PrintsSeq mods m.modules ∧ DelimStart m.modules := by
  unfold Manager.modules
  split
  · exact ⟨[.list [sy (cl!"ice-9"), sy (cl!"threads")]],
      PrintsSeq.ws ' ' (by decide) (.single (.of_render rfl (by decide +kernel))), DelimStart.cons (by decide)⟩
  · exact ⟨[], PrintsSeq.nil, DelimStart.nil⟩

theorem prints_terminate (m : Manager) (h : FiniOk m) : ∃ forms, PrintsSeq forms m.terminate := by
  obtain ⟨is, h⟩ := h
  unfold Manager.terminate
  split
  · exact ⟨[.bool true], .single Prints.boolT⟩
  · have hp : ∀ i, Prints (call (cl!"close-port") [sy (lf3 (cl!"port") i)]) (closePortT i) := fun i =>
      .of_render rfl (by simpa using ⟨by decide +kernel, goodSym_gname ⟨.port, i⟩⟩)
    exact ⟨_, h ▸ printsSeq_join_map hp (cl!" ") (by decide) (by decide) is⟩

theorem Starts.append {t : Text} (h : Starts t) (rest : Text) : Starts (t ++ rest) := by
  obtain ⟨c, cs, rfl, h⟩ := h
  exact ⟨c, cs ++ rest, rfl, h⟩

theorem skipBlank_ws : ∀ (w : Text) (rest : Text) (fuel : Nat), (∀ c ∈ w, isWs c = true) → w.length < fuel →
    Starts rest → skipBlank fuel (w ++ rest) = rest
  | [], _, fuel, _, hf, ⟨c, cs, rfl, h1, h2, _⟩ => by
    cases fuel with
    | zero => omega
    | succ f => simp [skipBlank, h1, h2]
  | c :: w, rest, fuel, hw, hf, hr => by
    cases fuel with
    | zero => omega
    | succ f =>
      simp only [List.cons_append, skipBlank, hw c (by simp), if_true]
      exact skipBlank_ws w rest f (fun x hx => hw x (by simp [hx])) (by simp at hf; omega) hr

theorem readAllAux_nil (fuel : Nat) : readAllAux (fuel + 1) [] = some [] := by
  rw [readAllAux]; simp [skipBlank]

theorem readAllAux_cons {s : SExp} {t : Text} (h : Prints s t) (rest : Text) (hd : DelimStart rest) (fuel : Nat) :
    readAllAux (fuel + 1) (t ++ rest) = (readAllAux fuel rest).map (s :: ·) := by
  have hsk := skipBlank_ws [] (t ++ rest) ((t ++ rest).length + 1) (by simp) (by simp) (h.starts.append rest)
  have hr := h.reads rest (2 * (t ++ rest).length + 2) hd (by simp; omega)
  obtain ⟨c, cs, rfl, _⟩ := h.starts
  rw [List.nil_append] at hsk
  rw [readAllAux, hsk]
  simp only [List.cons_append] at hr ⊢
  rw [hr]
  simp only
  cases readAllAux fuel rest <;> rfl

theorem readAllAux_ws (w rest : Text) (hw : ∀ c ∈ w, isWs c = true) (hr : Starts rest) (fuel : Nat) :
    readAllAux (fuel + 1) (w ++ rest) = readAllAux (fuel + 1) rest := by
  have h1 := skipBlank_ws w rest ((w ++ rest).length + 1) hw (by simp; omega) hr
  have h2 := skipBlank_ws [] rest (rest.length + 1) (by simp) (by simp) hr
  rw [List.nil_append] at h2
  rw [readAllAux, readAllAux, h1, h2]

theorem readAll_two {s1 s2 : SExp} {t1 t2 : Text} (h1 : Prints s1 t1) (h2 : Prints s2 t2) :
    readAll (t1 ++ cl!"\n\n" ++ t2) = some [s1, s2] := by
  unfold readAll
  have hlen : (t1 ++ cl!"\n\n" ++ t2).length + 1 = (t1.length + t2.length) + 2 + 1 := by simp; omega
  rw [hlen, List.append_assoc, readAllAux_cons h1 _ (.blanks (w := cl!"\n\n") (by decide) (by decide) t2),
    readAllAux_ws (cl!"\n\n") t2 (by decide) h2.starts]
  have := readAllAux_cons h2 [] DelimStart.nil (t1.length + t2.length + 1)
  rw [List.append_nil] at this
  rw [this, readAllAux_nil]
  rfl

def unitS : SExp := .list []

def thunkS (body : List SExp) : SExp := .list (sy (cl!"lambda") :: unitS :: body)

def optionsS (o : RunOptions) : SExp :=
  match o.threads with
  | some c => .num c
  | none => call (cl!"lipe-getopt-thread-count") []

theorem prints_options (o : RunOptions) : Prints (optionsS o) (optionsT o) := by
  unfold optionsS optionsT
  cases o.threads
  · exact .of_render rfl (by decide +kernel)
  · exact Prints.num _

def form1 (mods : List SExp) : SExp :=
  .list (sy (cl!"use-modules") :: .list [sy (cl!"lipe")] :: .list [sy (cl!"lipe"), sy (cl!"find")] :: mods)

def form2 (defs : List SExp) (mdt : Text) (init body opts : SExp) (fini : List SExp) : SExp :=
  .list [sy (cl!"let*"), .list defs,
    .list [sy (cl!"dynamic-wind"), thunkS [init],
      thunkS [.list [sy (cl!"lipe-scan"), .str mdt, call (cl!"lipe-getopt-client-mount-path") [],
        thunkS [body], call (cl!"lipe-getopt-required-attrs") [], opts]],
      thunkS fini]]

/-- The text is left in the form `prints_spaced` gives it, so that a thunk can stand among the items of the
    next list; `readAll_prefix` and `readAll_scheme` unfold `spacedText` once, at the end. -/
theorem prints_thunk {body : List SExp} {t : Text} (h : PrintsSeq body t) : Prints (thunkS body)
    (cl!"(" ++ spacedText [canon (sy (cl!"lambda")) (cl!" "), canon unitS (cl!" ")] t ++ cl!")") :=
  Prints.list (prints_spaced [canon (sy (cl!"lambda")) (cl!" "), canon unitS (cl!" ")]
    ⟨prints_render _ (by decide +kernel), prints_render _ (by decide +kernel), trivial⟩ rfl h)

/-- The part of the frame before the device string (`Compiled.prefix_`), followed by the rest `x` of the
    `lipe-scan` form, the closing of its thunk and a last thunk `t`.  The template is compared in two
    halves, here and in `readAll_scheme`: the final `exact` checks the two texts equal character by
    character, one level of recursion each, and the whole template is deeper than the elaborator's
    default limit. -/
theorem readAll_prefix (c : Compiled) {mods defs scan : List SExp} {init fini : SExp} {x t : Text}
    (hm : PrintsSeq mods c.modules) (hmd : DelimStart c.modules) (hd : PrintsSeq defs c.definitions)
    (hi : Prints init c.initialization) (hx : PrintsSeq scan x) (ht : Prints fini t) :
    readAll (c.prefix_ ++ (x ++ (cl!"))\n    " ++ (t ++ cl!"))")))) = some [form1 mods,
      .list [sy (cl!"let*"), .list defs,
        .list [sy (cl!"dynamic-wind"), thunkS [init], thunkS [.list (sy (cl!"lipe-scan") :: scan)], fini]]] := by
  have f1 := Prints.list (prints_spaced [canon (sy (cl!"use-modules")) (cl!" "), canon (.list [sy (cl!"lipe")]) (cl!" ")]
    ⟨prints_render _ (by decide +kernel), prints_render _ (by decide +kernel), trivial⟩ rfl
    (PrintsSeq.cons (prints_render (.list [sy (cl!"lipe"), sy (cl!"find")]) (by decide +kernel)) hm hmd))
  have hscan := Prints.list (prints_spaced [canon (sy (cl!"lipe-scan")) (cl!"\n        ")]
    ⟨prints_render _ (by decide +kernel), trivial⟩ rfl hx)
  have wind := Prints.list (prints_spaced
    [canon (sy (cl!"dynamic-wind")) (cl!"\n    "), ((thunkS [init], _), cl!"\n    "), ((_, _), cl!"\n    ")]
    ⟨prints_render _ (by decide +kernel), prints_thunk (.single hi), prints_thunk (.single hscan), trivial⟩ rfl (.single ht))
  have f2 := Prints.list (prints_spaced [canon (sy (cl!"let*")) (cl!" "), ((.list defs, _), cl!"\n  ")]
    ⟨prints_render _ (by decide +kernel), Prints.list hd, trivial⟩ rfl (.single wind))
  have := readAll_two f1 f2
  simp only [spacedText, canon, List.append_assoc] at this
  simp only [Compiled.prefix_, List.append_assoc]
  exact this

theorem readAll_scheme (c : Compiled) (mdt : Text) {mods defs fini : List SExp} {init body opts : SExp}
    (hm : PrintsSeq mods c.modules) (hmd : DelimStart c.modules) (hd : PrintsSeq defs c.definitions)
    (hi : Prints init c.initialization) (hb : Prints body c.policyBody) (ho : Prints opts c.options)
    (hf : PrintsSeq fini c.terminate) :
    readAll (c.scheme mdt) = some [form1 mods, form2 defs mdt init body opts fini] := by
  have hx := prints_spaced
    [((.str mdt, _), cl!"\n        "), canon (call (cl!"lipe-getopt-client-mount-path") []) (cl!"\n        "),
     ((thunkS [body], _), cl!"\n        "), canon (call (cl!"lipe-getopt-required-attrs") []) (cl!"\n        ")]
    ⟨Prints.str mdt, prints_render _ (by decide +kernel), prints_thunk (.single hb), prints_render _ (by decide +kernel),
      trivial⟩ rfl (.single ho)
  have := readAll_prefix c hm hmd hd hi hx (prints_thunk hf)
  simp only [spacedText, canon, List.append_assoc] at this
  simp only [Compiled.scheme, Compiled.suffix_, List.append_assoc]
  exact this

theorem mapM_bindingOf (vars : List Binding) : (vars.map bindingForm).mapM bindingOf = some (vars.map Binding.sexp) := by
  induction vars with
  | nil => rfl
  | cons b bs ih =>
    simp only [List.map_cons, List.mapM_cons, ih]
    simp [bindingForm, bindingOf]

theorem programOf_frame (mods : List SExp) (vars : List Binding) (mdt : Text) (init body opts : SExp) (fini : List SExp) :
    programOf [form1 mods, form2 (vars.map bindingForm) mdt init body opts fini] =
      some { modules := .list [sy (cl!"lipe")] :: .list [sy (cl!"lipe"), sy (cl!"find")] :: mods,
             bindings := vars.map Binding.sexp, init := thunkS [init], device := .str mdt, body := body,
             threads := opts, fini := thunkS fini } := by
  simp only [programOf, form1, form2, thunkS, unitS, sy, mapM_bindingOf]
  -- what is left are `programOf`'s tests that the keywords stand where they should
  simp

end Scheme
end FV

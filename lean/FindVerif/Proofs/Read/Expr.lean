import FindVerif.Proofs.Read.Format
import FindVerif.Proofs.GenRun
/-
  The two generators run in step (`Aligned`).  The text generator writes the canonical rendering of what
  the structured generator builds (`Prints.of_render`), with two exceptions: `-type` with no type
  (`prints_typeList`) and the `format` call (`format_rel`).  Where part of the text is itself only known
  to render a datum, the list is put together from its items (`prints_list`, `prints_call2`).
-/
namespace FV
namespace Scheme

theorem formatCmp2_eq {α : Type} (c : Comparison α) (lhs rhs : α → Text) :
    formatCmp2 c lhs rhs = cl!"(" ++ cmpOp c ++ cl!" (" ++ lhs c.val ++ cl!") " ++ rhs c.val ++ cl!")" := by
  cases c <;> rfl

theorem formatCmp_eq (c : Comparison Nat) (target : Text) : formatCmp c target = formatCmp2 c (fun _ => target) nat := by
  cases c <;> rfl

theorem prints_formatCmp2 {α : Type} (c : Comparison α) (lhs rhs : α → Text) {xl xr : SExp}
    (hl : Prints xl (cl!"(" ++ lhs c.val ++ cl!")")) (hr : Prints xr (rhs c.val)) :
    Prints (call (cmpOp c) [xl, xr]) (formatCmp2 c lhs rhs) := by
  have := prints_call2 (goodSym_cmp c) hl hr
  rw [formatCmp2_eq]
  simp only [List.append_assoc] at this ⊢
  exact this

theorem prints_formatCmp (c : Comparison Nat) (target : Text) (ht : GoodSym target) :
    Prints (genCmp c target) (formatCmp c target) :=
  formatCmp_eq c target ▸ prints_formatCmp2 c _ _ (.of_render rfl (by simpa using ht)) (Prints.num _)

theorem prints_sizeComp (c : Comparison Size) : Prints (genSizeComp c) (compileSizeComp c) := by
  refine prints_formatCmp2 c _ _ ?_ (Prints.num _)
  cases c.val with
  | byte _ => exact .of_render rfl (by simp [sizeLhsS]; decide +kernel)
  | _ =>
    refine .of_render ?_ (by simp [sizeLhsS]; decide +kernel)
    simp only [sizeMatching, List.append_assoc]
    rfl

theorem prints_timeComp (secs : Nat) (field : Text) (hf : GoodSym field) (c : Comparison TimeSpec) :
    Prints (genTimeComp secs field c) (compileTimeComp secs field c) := by
  refine prints_formatCmp2 c _ _ (.of_render ?_ (by simp [hf]; decide +kernel)) (Prints.num _)
  simp only [List.append_assoc]
  rfl

theorem prints_permCheck (p : PermCheck) : Prints (genPermCheck p) (compilePermCheck p) := by
  cases p
  all_goals
    refine .of_render ?_ (by simp [genPermCheck]; decide +kernel)
    simp only [compilePermCheck, List.append_assoc]
    rfl

theorem prints_typeList (l : List FileType) : Prints (genTypeList l) (compileTypeList l) := by
  have key : ∀ (f : FileType → Text) (g : FileType → SExp), (∀ tp, Prints (g tp) (f tp)) →
      Prints (match l.map g with | [c] => c | _ => call (cl!"or") (l.map g))
        (match l.map f with | [c] => c | _ => cl!"(or " ++ joinWith (cl!" ") (l.map f) ++ cl!")") := by
    intro f g h
    match l with
    | [] =>
      -- `(or )`: the blank after `or` is written though nothing follows
      exact Prints.list (prints_spaced [canon (sy (cl!"or")) (cl!" ")] ⟨prints_render _ (by decide +kernel), trivial⟩ rfl .nil)
    | [tp] => exact h tp
    | a :: b :: r =>
      have := prints_list ((sy (cl!"or"), cl!"or") :: (a :: b :: r).map fun tp => (g tp, f tp))
        ⟨Prints.sym (by decide +kernel), .map h _⟩
      simp only [List.map_cons, List.map_map, Function.comp_def, joinWith, List.append_assoc] at this ⊢
      exact this
  simp only [genTypeList, compileTypeList]
  exact key _ _ fun tp => .of_render (by simp only [List.append_assoc]; rfl) (by simp; decide +kernel)

def Aligned : CRes (Text × CState) → CRes (SExp × CState) → Prop
  | .ok (t, s), .ok (x, s') => Prints x t ∧ s' = s
  | .err e, .err e' => e' = e
  | .panic p, .panic p' => p' = p
  | _, _ => False

theorem Aligned.ok {x : SExp} {t : Text} (s : CState) (h : Prints x t) : Aligned (.ok (t, s)) (.ok (x, s)) := ⟨h, rfl⟩
theorem Aligned.err (e : CompileError) : Aligned (.err e) (.err e) := rfl

theorem Aligned.of_ok {t : Text} {s : CState} {r : CRes (SExp × CState)} (h : Aligned (.ok (t, s)) r) :
    ∃ x, r = .ok (x, s) ∧ Prints x t := by
  match r, h with
  | .ok (x, _), ⟨hp, rfl⟩ => exact ⟨x, rfl, hp⟩

theorem Aligned.state_eq {l : CRes (Text × CState)} {l' : CRes (SExp × CState)} (h : Aligned l l') : l'.state = l.state := by
  match l, l', h with
  | .err _, .err _, rfl => rfl
  | .panic _, .panic _, rfl => rfl
  | .ok (_, _), .ok (_, _), ⟨_, rfl⟩ => rfl

theorem Aligned.mapOk {f : Text → Text} {g : SExp → SExp} (hfg : ∀ {t x}, Prints x t → Prints (g x) (f t))
    {l : CRes (Text × CState)} {l' : CRes (SExp × CState)} (h : Aligned l l') : Aligned (l.mapOk f) (l'.mapOk g) := by
  match l, l', h with
  | .err _, .err _, rfl => exact rfl
  | .panic _, .panic _, rfl => exact rfl
  | .ok (_, s), .ok (_, _), ⟨hp, rfl⟩ => exact .ok s (hfg hp)

theorem Aligned.thenOk {f : Text → Text → Text} {g : SExp → SExp → SExp}
    (hfg : ∀ {ta tb xa xb}, Prints xa ta → Prints xb tb → Prints (g xa xb) (f ta tb))
    {l : CRes (Text × CState)} {l' : CRes (SExp × CState)} {r : CState → CRes (Text × CState)}
    {r' : CState → CRes (SExp × CState)} (hl : Aligned l l') (hr : ∀ st, Aligned (r st) (r' st)) :
    Aligned (l.thenOk f r) (l'.thenOk g r') := by
  match l, l', hl with
  | .err _, .err _, rfl => exact rfl
  | .panic _, .panic _, rfl => exact rfl
  | .ok (_, s), .ok (_, _), ⟨hp, rfl⟩ => exact .mapOk (hfg hp) (hr s)

theorem test_aligned (clk : Nat → Nat) (t : Test) (st : CState) : Aligned (compileTest clk t st) (genTest clk t st) := by
  have matchT : ∀ (pre s : Text) (ci : Bool), GoodSym pre →
      Aligned (.ok (cl!"(" ++ pre ++ cl!" " ++ (st.mgr.getMatcher s ci).1 ++ cl!")", { st with mgr := (st.mgr.getMatcher s ci).2 }))
        (.ok (call pre [sy (st.mgr.getMatcher s ci).1], { st with mgr := (st.mgr.getMatcher s ci).2 })) := by
    intro pre s ci hpre
    refine .ok _ (.of_render ?_ (by simpa using ⟨hpre, goodSym_gname ⟨.match_, _⟩⟩))
    simp only [List.append_assoc]
    rfl
  cases t with
  | accessTime c | changeTime c | modifyTime c => exact .ok _ (prints_timeComp _ _ (by decide +kernel) c)
  | empty | executable | readable | writable => exact .ok _ (.of_render rfl (by decide +kernel))
  | false_ => exact .ok _ Prints.boolF
  | true_ => exact .ok _ Prints.boolT
  | groupId c | userId c | inodeNumber c | links c | mirrorCount c | stripeCount c =>
    exact .ok _ (prints_formatCmp c _ (by decide +kernel))
  | size c => exact .ok _ (prints_sizeComp c)
  | type l => exact .ok _ (prints_typeList l)
  | perm p => exact .ok _ (prints_permCheck p)
  | name s | path s => exact matchT _ s false (by decide +kernel)
  | insensitiveName s | insensitivePath s => exact matchT _ s true (by decide +kernel)
  | pool s | xattr s =>
    refine .ok _ (.of_render ?_ (by simp; decide +kernel))
    simp only [List.append_assoc]
    rfl
  | xattrMatch k v =>
    rw [compileTest_xattrMatch, genTest_xattrMatch]
    refine .ok _ ?_
    split <;>
    · refine .of_render ?_ (by simp; decide +kernel)
      simp only [List.append_assoc]
      rfl
  | _ => exact .err _

theorem action_aligned (a : Action) (st : CState) : Aligned (compileAction a st) (genAction a st) := by
  have viaPath : ∀ (r : Text × Manager), (∃ i, r.1 = lf3 (cl!"print") i) →
      Aligned (.ok (cl!"(call-with-relative-path " ++ r.1 ++ cl!")", { st with mgr := r.2 }))
        (.ok (call (cl!"call-with-relative-path") [sy r.1], { st with mgr := r.2 })) := by
    rintro r ⟨i, hi⟩
    exact .ok _ (.of_render rfl (by rw [hi]; simpa using ⟨by decide +kernel, goodSym_gname ⟨.print, i⟩⟩))
  have viaFormat : ∀ (r : Text × Manager) (es : List FormatElement), (∃ i, r.1 = lf3 (cl!"print") i) →
      Aligned
        ((CRes.ofExcept (compileFormat es)).map fun f => (cl!"(" ++ r.1 ++ cl!" " ++ f ++ cl!")", { st with mgr := r.2 }))
        ((CRes.ofExcept (genFormat es)).map fun f => (call r.1 [f], { st with mgr := r.2 })) := by
    rintro r es ⟨i, hi⟩
    match compileFormat es, genFormat es, format_rel es with
    | .error _, .error _, rfl => exact .err _
    | .ok ft, .ok fs, hf =>
      have := prints_list [(sy r.1, r.1), (fs, ft)]
        ⟨hi ▸ Prints.sym (goodSym_gname ⟨.print, i⟩), hf, trivial⟩
      refine .ok _ ?_
      simp only [List.map_cons, List.map_nil, joinWith, List.append_assoc] at this ⊢
      exact this
  cases a with
  | defaultPrint | printFid | quit => exact .ok _ (.of_render rfl (by decide +kernel))
  | print | printNull => exact viaPath _ (request_name _ (.stdout _))
  | filePrint d | filePrintNull d => exact viaPath _ (request_name _ (.file d _))
  | printFormatted es =>
    rw [compileAction_printFormatted, genAction_printFormatted]
    exact viaFormat _ es (request_name _ (.stdout _))
  | filePrintFormatted d es =>
    rw [compileAction_filePrintFormatted, genAction_filePrintFormatted]
    exact viaFormat _ es (request_name _ (.file d _))
  | prune | list | fileList s => exact .err _

theorem expr_aligned (clk : Nat → Nat) : ∀ (e : Expr) (st : CState), Aligned (compileExpr clk e st) (genExpr clk e st)
  | .test t, st => test_aligned clk t st
  | .action a, st => action_aligned a st
  | .positional _, _ => .err _
  | .global _, _ => rfl
  | .prec _, _ => rfl
  | .not e, st => by
    rw [compileExpr_not, genExpr_not]
    exact .mapOk (fun {t x} h => prints_list [(sy (cl!"not"), cl!"not"), (x, t)] ⟨Prints.sym (by decide +kernel), h, trivial⟩)
      (expr_aligned clk e st)
  | .and a b, st => by
    rw [compileExpr_and, genExpr_and]
    exact .thenOk (prints_call2 (f := cl!"and") (by decide +kernel)) (expr_aligned clk a st) (expr_aligned clk b)
  | .list a b, st => by
    rw [compileExpr_list, genExpr_list]
    exact .thenOk (prints_call2 (f := cl!"and") (by decide +kernel)) (expr_aligned clk a st) (expr_aligned clk b)
  | .or a b, st => by
    rw [compileExpr_or, genExpr_or]
    exact .thenOk (prints_call2 (f := cl!"or") (by decide +kernel)) (expr_aligned clk a st) (expr_aligned clk b)

end Scheme
end FV

import FindVerif.Proofs.LexGood
import FindVerif.Proofs.WinnowEval
/- Argument readers on arguments as written. -/
namespace FV
open W

/-- What may follow a bare word: end of input, a blank, or `)`. -/
def WordStop (rest : Text) : Prop := rest = [] ∨ ∃ c r, rest = c :: r ∧ isWordChar c = false

theorem quoteDelimiter_bare (w rest : Text) (hne : w ≠ []) (hw : ∀ c ∈ w, isWordChar c = true)
    (hq : ∀ c r, w = c :: r → c ≠ '"' ∧ c ≠ '\'') (hs : WordStop rest) :
    quoteDelimiter (w ++ rest) = .ok w rest := by
  obtain ⟨c, r, rfl⟩ := List.exists_cons_of_ne_nil hne
  obtain ⟨h1, h2⟩ := hq c r rfl
  rw [quoteDelimiter, delimited, delimited, List.cons_append,
    alt_cons_of_bt (preceded_lit_cons_ne _ _ h1.symm) (by simp), alt_cons_of_bt (preceded_lit_cons_ne _ _ h2.symm) (by simp)]
  exact takeWhile_run (List.length_pos_iff.mpr hne) hw hs

theorem quoteDelimiter_quoted {q : Char} (hq : q = '"' ∨ q = '\'') (s rest : Text) (hne : s ≠ []) (hs : ∀ c ∈ s, c ≠ q) :
    quoteDelimiter (q :: (s ++ q :: rest)) = .ok s rest := by
  have h : delimited (lit [q]) (takeUntil1 q) (lit [q]) (q :: (s ++ q :: rest)) = .ok s rest :=
    (preceded_lit_cons q _ _).trans (map_of_ok (pair_of_ok (takeUntil1_quoted q s rest hne hs) (lit_append [q] rest)))
  rcases hq with rfl | rfl
  · exact alt_cons_of_ok h
  · rw [quoteDelimiter, delimited, alt_cons_of_bt (preceded_lit_cons_ne _ _ (by decide)) (by simp)]
    exact alt_cons_of_ok h

theorem wordChar_not_blank {c : Char} (h : isWordChar c = true) : isBlank c = false := by
  simp only [isWordChar, Bool.and_eq_true, Bool.not_eq_true'] at h
  exact h.1

/-- The spelling `q :: s ++ [q]` in front of `tail`, bracketed as `quoteDelimiter_quoted` states it. -/
theorem quoted_append (q : Char) (s tail : Text) : q :: (s ++ [q]) ++ tail = q :: (s ++ q :: tail) := by simp

theorem compFormat_gt {α} {p : P Char α} {x r : Text} {v : α} (h : p x = .ok v r) :
    compFormat p ('+' :: x) = .ok (.gt v) r :=
  context_ok.2 (alt_cons_of_ok (map_preceded_lit_ok h))

theorem compFormat_lt {α} {p : P Char α} {x r : Text} {v : α} (h : p x = .ok v r) :
    compFormat p ('-' :: x) = .ok (.lt v) r :=
  context_ok.2 ((alt_cons_of_bt (map_preceded_lit_bt (by decide)) (by simp)).trans (alt_cons_of_ok (map_preceded_lit_ok h)))

theorem compFormat_eq {α} (p : P Char α) {c : Char} (r : Text) (hp : c ≠ '+') (hm : c ≠ '-') :
    compFormat p (c :: r) =
      match p (c :: r) with
      | .ok v r' => .ok (.eq v) r'
      | .err _ cs r' => .err true (cs ++ [label (cl!"comparison")]) r'
      | .panic s => .panic s := by
  have h : compFormat p (c :: r) = context (label (cl!"comparison")) (map Comparison.eq (cutErr p)) (c :: r) :=
    context_of_eq ((alt_cons_of_bt (map_preceded_lit_bt hp.symm) (by simp)).trans
      (alt_cons_of_bt (map_preceded_lit_bt hm.symm) (by simp)))
  simp only [h, context, map, cutErr]
  cases p (c :: r) <;> rfl

theorem parsePermCheck_prefix (pf : Profile) (t r : Text) (m : Nat) (h : parsePermission pf t = .ok m r) :
    parsePermCheck pf ('/' :: t) = .ok (.any m) r ∧
    parsePermCheck pf ('-' :: t) = .ok (.atLeast m) r ∧
    (∀ c t', t = c :: t' → c ≠ '/' → c ≠ '-' → parsePermCheck pf t = .ok (.equal m) r) := by
  have hc := cutErr_ok.2 h
  refine ⟨context_ok.2 (alt_cons_of_ok (map_preceded_lit_ok hc)),
    context_ok.2 ((alt_cons_of_bt (map_preceded_lit_bt (by decide)) (by simp)).trans
      (alt_cons_of_ok (map_preceded_lit_ok hc))), ?_⟩
  rintro c t' rfl h1 h2
  exact context_ok.2 ((alt_cons_of_bt (map_preceded_lit_bt h1.symm) (by simp)).trans
    ((alt_cons_of_bt (map_preceded_lit_bt h2.symm) (by simp)).trans (map_of_ok hc)))

theorem parsePermission_octal (pf : Profile) (ds : Text) (h3 : 3 ≤ ds.length) (ho : ∀ c ∈ ds, isOct c = true)
    (hm : octVal ds < 4096) : parsePermission pf ds = .ok (octVal ds) [] := by
  have ht := takeWhile_run (rest := []) h3 ho (Or.inl rfl)
  rw [List.append_nil] at ht
  exact context_ok.2 (alt_cons_of_ok (tryMap_of_ok ht (if_pos hm)))

theorem digit_not_sign {c : Char} (h : isDigit c = true) : c ≠ '+' ∧ c ≠ '-' :=
  ⟨fun e => by subst e; exact absurd h (by decide), fun e => by subst e; exact absurd h (by decide)⟩

def DigitStop (rest : Text) : Prop := rest = [] ∨ ∃ c r, rest = c :: r ∧ isDigit c = false

/-- The unsigned reader: exact value below the bound, rejection (input untouched) otherwise. -/
theorem parseUint_digits (bound : Nat) (ds rest : Text) (hne : ds ≠ []) (hd : ∀ c ∈ ds, isDigit c = true)
    (hs : DigitStop rest) :
    parseUint bound (ds ++ rest) =
      if decVal ds < bound then .ok (decVal ds) rest
      else .err false [expected (cl!"unsigned_integer")] (ds ++ rest) := by
  simp only [parseUint, context, tryMap, digit1, takeWhile_run (List.length_pos_iff.mpr hne) hd hs]
  by_cases hb : decVal ds < bound <;> simp [hb]

theorem digits_head {ds : Text} (hne : ds ≠ []) (hd : ∀ c ∈ ds, isDigit c = true) :
    ∃ c r, ds = c :: r ∧ isBlank c = false ∧ c ≠ '+' ∧ c ≠ '-' := by
  obtain ⟨c, r, rfl⟩ := List.exists_cons_of_ne_nil hne
  have h1 := hd c (List.mem_cons_self ..)
  refine ⟨c, r, rfl, ?_, digit_not_sign h1⟩
  cases hc : isBlank c with
  | false => rfl
  | true =>
    simp only [isBlank, Bool.or_eq_true, decide_eq_true_eq] at hc
    rcases hc with ((rfl | rfl) | rfl) | rfl <;> cases h1

/-- What may follow a size or time count written without a unit. -/
def CountStop (tail : Text) : Prop := tail = [] ∨ ∃ c r, tail = c :: r ∧ isDigit c = false ∧ isAlpha c = false

theorem CountStop.digitStop {tail : Text} (h : CountStop tail) : DigitStop tail :=
  nil_or_head_imp (fun _ hc => hc.1) h

theorem CountStop.alphaStop {tail : Text} (h : CountStop tail) : tail = [] ∨ ∃ c r, tail = c :: r ∧ isAlpha c = false :=
  nil_or_head_imp (fun _ hc => hc.2) h

theorem digits_alpha_bt {β : Type} (inner : P Char β) (ds tail : Text) (hne : ds ≠ [])
    (hd : ∀ c ∈ ds, isDigit c = true) (ht : CountStop tail) :
    Bt (andThen (terminated digit1 alpha1) inner) (ds ++ tail) := by
  have hd1 : digit1 (ds ++ tail) = .ok ds tail := takeWhile_run (List.length_pos_iff.mpr hne) hd ht.digitStop
  have hno : tail.takeWhile isAlpha = [] := (run_split (xs := []) nofun ht.alphaStop).1
  have ha : Bt alpha1 tail := takeWhile_bt (by rw [hno]; decide)
  exact andThen_of_bt (map_bt.2 (pair_bt.2 (.inr ⟨ds, tail, hd1, ha⟩)))

section countReader
variable {α : Type} {name site bad : Text} {unit : Char → Nat → Option α} {isUnit : Char → Bool} {dflt : Nat → α}
  {ds : Text}

theorem countReader_unit (hne : ds ≠ []) (hd : ∀ c ∈ ds, isDigit c = true) (hb : decVal ds < 2 ^ 64) {u : Char} {a : α}
    (hu : isUnit u = true) (hdig : isDigit u = false) (ha : unit u (decVal ds) = some a) (tail : Text) :
    countReader name site bad unit isUnit dflt (ds ++ u :: tail) = .ok a tail := by
  have hr : parseU64 (ds ++ u :: tail) = .ok (decVal ds) (u :: tail) := by
    rw [parseU64, parseUint_digits (2 ^ 64) ds _ hne hd (.inr ⟨u, tail, rfl, hdig⟩), if_pos hb]
  exact context_ok.2 (alt_cons_of_ok (mapOrPanic_of_ok (pair_of_ok hr (oneOf_cons tail hu)) ha))

theorem countReader_bare (hletter : ∀ c, isUnit c = true → isAlpha c = true) (hne : ds ≠ [])
    (hd : ∀ c ∈ ds, isDigit c = true) (hb : decVal ds < 2 ^ 64) {tail : Text} (ht : CountStop tail) :
    countReader name site bad unit isUnit dflt (ds ++ tail) = .ok (dflt (decVal ds)) tail := by
  have hr : parseU64 (ds ++ tail) = .ok (decVal ds) tail := by
    rw [parseU64, parseUint_digits (2 ^ 64) ds _ hne hd ht.digitStop, if_pos hb]
  have hnu : tail = [] ∨ ∃ c r, tail = c :: r ∧ isUnit c = false :=
    nil_or_head_imp (fun c h2 => by
      cases hc : isUnit c with
      | false => rfl
      | true => rw [hletter c hc] at h2; cases h2) ht.alphaStop
  have h1 : Bt (mapOrPanic site (fun (nu : Nat × Char) => unit nu.2 nu.1) (pair parseU64 (oneOf isUnit))) (ds ++ tail) :=
    mapOrPanic_bt.2 (pair_bt.2 (.inr ⟨_, tail, hr, oneOf_stop hnu⟩))
  exact context_ok.2 ((alt_cons_of_bt h1 (by simp)).trans
    ((alt_cons_of_bt (digits_alpha_bt _ ds tail hne hd ht) (by simp)).trans (map_of_ok hr)))

end countReader

theorem fileType_letter (c : Char) (t : FileType) (h : fileTypeOf c = some t) :
    isFileTypeChar c = true ∧ isAlpha c = true ∧ isBlank c = false :=
  have hc := fileTypeOf_isSome.1 (h ▸ rfl)
  ⟨hc, (by decide : ∀ c ∈ cl!"bcdpfls", isAlpha c = true ∧ isBlank c = false) c (containsChar_mem hc)⟩

theorem parseFileType_letter (c : Char) (t : FileType) (rest : Text) (h : fileTypeOf c = some t)
    (hr : rest = [] ∨ ∃ d r, rest = d :: r ∧ isAlpha d = false) : parseFileType (c :: rest) = .ok t rest := by
  obtain ⟨h1, h2, _⟩ := fileType_letter c t h
  -- one letter only: `take_while(2.., alpha)` does not apply, the letter's own alternative does
  have htw : (c :: rest).takeWhile isAlpha = [c] := (run_split (xs := [c]) (by simpa using h2) hr).1
  rw [parseFileType, alt_cons_of_bt (andThen_of_bt (takeWhile_bt (by rw [htw]; exact Nat.lt_succ_self 1))) (by simp)]
  exact alt_cons_of_ok (mapOrPanic_of_ok (oneOf_cons rest h1) h)

/-- `,t1,t2,…`: the items after the first of a comma-separated list, each written by `txt`. -/
def commaTail {ι : Type} (txt : ι → Text) : List ι → Text
  | [] => []
  | c :: cs => ',' :: (txt c ++ commaTail txt cs)

theorem commaTail_stop {ι : Type} {txt : ι → Text} {stop : Text → Prop} (hcomma : ∀ x, stop (',' :: x)) {tail : Text}
    (hstop : stop tail) (cs : List ι) : stop (commaTail txt cs ++ tail) := by
  cases cs with
  | nil => exact hstop
  | cons _ _ => exact hcomma _

theorem separatedLoop_written {ι α : Type} (pf : Profile) (p : P Char α) (txt : ι → Text) (val : ι → Option α)
    (stop : Text → Prop) (hcomma : ∀ x, stop (',' :: x)) (tail : Text) (hstop : stop tail)
    (hend : isPrefix (cl!",") tail = false) :
    ∀ (cs : List ι) (vs : List α), cs.mapM val = some vs →
    (∀ c ∈ cs, ∀ v, val c = some v → ∀ rest, stop rest → p (txt c ++ rest) = .ok v rest) →
    ∀ (fuel : Nat) (acc : List α), (commaTail txt cs ++ tail).length < fuel →
    separatedLoop pf p (lit (cl!",")) fuel acc (commaTail txt cs ++ tail) = .ok (acc.reverse ++ vs) tail
  | _, _, _, _, 0, _, hf => absurd hf (Nat.not_lt_zero _)
  | [], vs, hm, _, n + 1, acc, _ => by
    cases hm
    simpa [commaTail] using separatedLoop_stop pf n acc (lit_bt.2 hend)
  | c :: cs, vs, hm, h, n + 1, acc, hf => by
    obtain ⟨v, vs', hc, hcs, rfl⟩ := mapM_cons_eq_some.1 hm
    rw [commaTail, List.cons_append, List.append_assoc] at hf ⊢
    have hsep : lit (cl!",") (',' :: (txt c ++ (commaTail txt cs ++ tail))) = .ok () _ := lit_append (cl!",") _
    rw [separatedLoop_step pf n acc hsep (by simp)
        (h c (List.mem_cons_self ..) v hc _ (commaTail_stop hcomma hstop cs)),
      separatedLoop_written pf p txt val stop hcomma tail hstop hend cs vs' hcs
        (fun x hx => h x (List.mem_cons_of_mem _ hx)) n (v :: acc) (by simp at hf ⊢; omega)]
    simp

/-- A comma-separated list as written reads back item by item.  `stop` is what the item reader `p` needs
    behind an item (`h`); a comma is such (`hcomma`) and so is what follows the list (`hstop`), which
    must not start with a comma itself (`hend`). -/
theorem separated1_written {ι α : Type} (pf : Profile) (p : P Char α) (txt : ι → Text) (val : ι → Option α)
    (stop : Text → Prop) (hcomma : ∀ x, stop (',' :: x)) (tail : Text) (hstop : stop tail)
    (hend : isPrefix (cl!",") tail = false) (c : ι) (cs : List ι) (vs : List α) (hm : (c :: cs).mapM val = some vs)
    (h : ∀ c' ∈ c :: cs, ∀ v, val c' = some v → ∀ rest, stop rest → p (txt c' ++ rest) = .ok v rest) :
    separated1 pf p (lit (cl!",")) (txt c ++ (commaTail txt cs ++ tail)) = .ok vs tail := by
  obtain ⟨v, vs', hc, hcs, rfl⟩ := mapM_cons_eq_some.1 hm
  exact separated1_ok.2 ⟨v, _, h c (List.mem_cons_self ..) v hc _ (commaTail_stop hcomma hstop cs),
    separatedLoop_written pf p txt val stop hcomma tail hstop hend cs vs' hcs (fun x hx => h x (List.mem_cons_of_mem _ hx)) _
      [v] (Nat.lt_succ_self _)⟩

end FV

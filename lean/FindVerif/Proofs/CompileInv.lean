import FindVerif.Proofs.Manager
import FindVerif.Proofs.CompileRun
/- The manager invariant holds where a run starts and is kept by code generation; what each resource
   request returns. -/
namespace FV

theorem Inv.initialManager (e : Expr) : Inv (initialManager e) :=
  initialManager_cases Inv.distInit Inv.localInit e

theorem getMatcher_spec (m : Manager) (pat : Text) (ci : Bool) (h : Inv m) :
    Step m (m.getMatcher pat ci).2 ∧
    ∃ i, (m.getMatcher pat ci).1 = (GName.mk .match_ (i + 1)).text ∧
      Binding.matcher i pat ci ∈ (m.getMatcher pat ci).2.vars ∧
      ((pat, ci), i + 1) ∈ (m.getMatcher pat ci).2.matches_ := by
  have hs : Step m (m.getMatcher pat ci).2 := getMatcher_keeps Step.keeps m pat ci (Step.refl h)
  have hm := registerMatch_mem m pat ci
  obtain ⟨i, hi, hb⟩ := hs.inv.maps.mBound pat ci _ hm
  exact ⟨hs, i, by rw [GName.text_mk, ← hi]; rfl, hb, by rw [← hi]; exact hm⟩

/-- What a printer request returns, per mode. -/
def PrinterFor (m : Manager) (name : Text) (dest : Option Text) (term : Option Char) : Prop :=
  ∃ i, name = (GName.mk .print i).text ∧
    if m.distributed then
      Binding.printerD i ∈ m.vars ∧
      ((match dest with | none => Target.stdout term | some f => Target.file f term), i) ∈ m.printersD
    else
      ∃ p : OpenPort, Binding.printerL i p.port p.mutex term ∈ m.vars ∧ Binding.mutex p.mutex ∈ m.vars ∧
        (match dest with
         | none => Binding.stdoutPort p.port ∈ m.vars
         | some f => Binding.filePort p.port f ∈ m.vars)

/-- The binding of the port a destination is written through. -/
def portBinding : Option Text → Nat → Binding
  | none, prt => .stdoutPort prt
  | some f, prt => .filePort prt f

theorem PrinterFor.of_dist {m : Manager} {name : Text} {dest : Option Text} {term : Option Char} {i : Nat}
    (hd : m.distributed = true) (hn : name = (GName.mk .print i).text) (hb : Binding.printerD i ∈ m.vars)
    (hin : (Target.of dest term, i) ∈ m.printersD) : PrinterFor m name dest term := by
  refine ⟨i, hn, ?_⟩
  rw [if_pos hd]
  exact ⟨hb, by cases dest <;> exact hin⟩

theorem PrinterFor.of_plain {m : Manager} {name : Text} {dest : Option Text} {term : Option Char} {i : Nat} {p : OpenPort}
    (hd : m.distributed = false) (hn : name = (GName.mk .print i).text)
    (hb : Binding.printerL i p.port p.mutex term ∈ m.vars) (hm : Binding.mutex p.mutex ∈ m.vars)
    (hp : portBinding dest p.port ∈ m.vars) : PrinterFor m name dest term := by
  refine ⟨i, hn, ?_⟩
  rw [if_neg (by simp [hd])]
  exact ⟨p, hb, hm, by cases dest <;> exact hp⟩

theorem PrinterFor.dist {m : Manager} {name : Text} {dest : Option Text} {term : Option Char}
    (h : PrinterFor m name dest term) (hd : m.distributed = true) :
    ∃ i, name = (GName.mk .print i).text ∧ Binding.printerD i ∈ m.vars ∧ (Target.of dest term, i) ∈ m.printersD := by
  obtain ⟨i, hn, h⟩ := h
  rw [if_pos hd] at h
  exact ⟨i, hn, h.1, by cases dest <;> exact h.2⟩

theorem PrinterFor.plain {m : Manager} {name : Text} {dest : Option Text} {term : Option Char}
    (h : PrinterFor m name dest term) (hd : m.distributed = false) :
    ∃ i, ∃ p : OpenPort, name = (GName.mk .print i).text ∧ Binding.printerL i p.port p.mutex term ∈ m.vars ∧
      Binding.mutex p.mutex ∈ m.vars ∧ portBinding dest p.port ∈ m.vars := by
  obtain ⟨i, hn, h⟩ := h
  rw [if_neg (by simp [hd])] at h
  obtain ⟨p, hb, hm, hp⟩ := h
  exact ⟨i, p, hn, hb, hm, by cases dest <;> exact hp⟩

theorem PrinterFor.step {m m' : Manager} {name : Text} {dest : Option Text} {term : Option Char}
    (h : PrinterFor m name dest term) (hs : Step m m') : PrinterFor m' name dest term := by
  cases hd : m.distributed with
  | true =>
    obtain ⟨i, hn, hb, hin⟩ := h.dist hd
    exact .of_dist (hs.mode.trans hd) hn (hs.mem hb) (hs.keepD _ hin)
  | false =>
    obtain ⟨i, p, hn, hb, hm, hp⟩ := h.plain hd
    exact .of_plain (hs.mode.trans hd) hn (hs.mem hb) (hs.mem hm) (hs.mem hp)

theorem registerPrinterL_printerFor (m : Manager) (p : OpenPort) (dest : Option Text) (term : Option Char) (h : Inv m)
    (hd : m.distributed = false) (hp : m.HasPort p) (hport : portBinding dest p.port ∈ m.vars) :
    PrinterFor (m.registerPrinterL p term).2 (lf3 (cl!"print") (m.registerPrinterL p term).1) dest term := by
  have hs : Step m (m.registerPrinterL p term).2 := registerPrinterL_keeps Step.keeps m p term hd hp (Step.refl h)
  exact .of_plain (hs.mode.trans hd) rfl (hs.inv.maps.lBound _ _ _ (registerPrinterL_mem m p term))
    (hs.mem (h.hasPort hp).2) (hs.mem hport)

theorem request_spec (m : Manager) (dest : Option Text) (term : Option Char) (h : Inv m) :
    Step m (m.request (.of dest term)).2 ∧
    PrinterFor (m.request (.of dest term)).2 (m.request (.of dest term)).1 dest term := by
  refine ⟨request_keeps Step.keeps m _ (Step.refl h), ?_⟩
  cases hd : m.distributed with
  | true =>
    have hs : Step m (m.registerPrinterD (.of dest term)).2 := registerPrinterD_keeps Step.keeps m _ hd (Step.refl h)
    have hm := registerPrinterD_mem m (.of dest term)
    rw [request_dist m _ hd]
    exact .of_dist (hs.mode.trans hd) rfl (hs.inv.maps.dBound _ _ hm) hm
  | false =>
    cases dest with
    | none =>
      rw [Target.of, request_stdout_plain m term hd]
      obtain ⟨h1, h2, h3⟩ := initDefaultPort_keeps Step.keeps m hd (Step.refl h)
      exact registerPrinterL_printerFor _ _ none term h3.inv h1 (.inl h2) (h3.inv.maps.defBound _ h2).1
    | some f =>
      rw [Target.of, request_file_plain m f term hd]
      obtain ⟨h1, h2, h3⟩ := initFilePort_keeps Step.keeps m f hd (Step.refl h)
      exact registerPrinterL_printerFor _ _ (some f) term h3.inv h1 (.inr ⟨f, h2⟩) (h3.inv.maps.fBound _ _ h2).1

theorem Emits.step {clk : Nat → Nat} {e : Expr} {st st' : CState} {txt : Text} (h : Emits clk e st txt st')
    (hi : Inv st.mgr) : Step st.mgr st'.mgr :=
  h.keeps Step.keeps (Step.refl hi)

theorem compileExpr_step (clk : Nat → Nat) (e : Expr) (st st' : CState) (txt : Text)
    (hi : Inv st.mgr) (hc : compileExpr clk e st = .ok (txt, st')) : Step st.mgr st'.mgr :=
  (Emits.of_ok hc).step hi

end FV

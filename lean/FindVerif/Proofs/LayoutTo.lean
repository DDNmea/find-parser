import FindVerif.Proofs.Layout
import FindVerif.Proofs.LexSeq
/- Layouts that stop in front of a given rest of the input (`LayoutTo`): what precedes a primary
   whose argument is wrong.  `Layout` is the case where the rest is empty; the two statements about
   it at the end are instances. -/
namespace FV
open W Spec

inductive LayoutTo (pf : Profile) (tail : Text) : List Token → Text → Prop
  | nil : LayoutTo pf tail [] tail
  | cons {ok : Text → Prop} {t : Token} {w ws s : Text} {ts : List Token} :
      Writes pf ok t w → (∀ c ∈ ws, isBlank c = true) → ok (ws ++ s) → LayoutTo pf tail ts s →
      LayoutTo pf tail (t :: ts) (w ++ (ws ++ s))

theorem Layout.toLayoutTo {pf ts s} (h : Layout pf ts s) : LayoutTo pf [] ts s := by
  induction h with
  | nil => exact .nil
  | cons hw hws hok _ ih => exact .cons hw hws hok ih

theorem LayoutTo.toLayout {pf ts s} (h : LayoutTo pf [] ts s) : Layout pf ts s := by
  induction ts generalizing s with
  | nil => cases h; exact .nil
  | cons t ts ih => cases h with | cons hw hws hok hrest => exact .cons hw hws hok (ih hrest)

theorem LayoutTo.head {pf tail ts s} (ht : NoLead tail) (h : LayoutTo pf tail ts s) : NoLead s := by
  cases h with
  | nil => exact ht
  | cons hw _ _ _ =>
    obtain ⟨⟨c, r, rfl, hc⟩, _⟩ := hw
    exact .cons _ hc

theorem LayoutTo.ne_nil {pf tail t ts s} (h : LayoutTo pf tail (t :: ts) s) : s ≠ [] := by
  cases h with
  | cons hw _ _ _ =>
    obtain ⟨⟨c, r, rfl, _⟩, _⟩ := hw
    exact List.cons_ne_nil _ _

theorem LayoutTo.uncons {pf tail t ts s} (ht : NoLead tail) (h : LayoutTo pf tail (t :: ts) s) :
    ∃ r s1, token pf s = .ok t r ∧ r.dropWhile isBlank = s1 ∧ LayoutTo pf tail ts s1 ∧ s1.length < s.length := by
  cases h with
  | @cons ok _ w ws s1 _ hw hws hok hrest =>
    obtain ⟨_, hread⟩ := hw
    obtain ⟨r, htok, hr⟩ := hread (ws ++ s1) hok
    have hd : (ws ++ s1).dropWhile isBlank = s1 := (run_split hws (hrest.head ht)).2
    refine ⟨r, s1, htok, by rw [hr, hd], hrest, ?_⟩
    have h1 := (safe_token pf).consumes _ _ _ htok
    have h2 := (List.dropWhile_sublist (l := r) isBlank).length_le
    rw [hr, hd] at h2
    omega

theorem LayoutTo.lexPrefix {pf tail ts s} (ht : NoLead tail) (h : LayoutTo pf tail ts s) : LexPrefix pf s ts tail := by
  induction ts generalizing s with
  | nil => cases h; exact .nil tail
  | cons t ts ih =>
    obtain ⟨r, s1, htok, hr, hrest, _⟩ := h.uncons ht
    exact .cons htok (by rw [hr]; exact ih hrest)

theorem optLoop_layoutTo (pf : Profile) (tail : Text) (ht : NoLead tail) (hbt : Bt parseGlobal tail) :
    ∀ (gs : List GlobalOption) (ts : List Token) (s : Text) (n : Nat) (acc : List GlobalOption),
    LayoutTo pf tail (gs.map Token.global ++ ts) s →
    (ts = [] ∨ ∃ t ts', ts = t :: ts' ∧ isGlobalTok t = false) → s.length < n →
    ∃ s', repeatFold pf (terminated parseGlobal multispace0) (fun acc a => a :: acc) n acc s = .ok (gs.reverse ++ acc) s' ∧
      LayoutTo pf tail ts s'
  | [], ts, s, n, acc, hL, hts, hn => by
    obtain ⟨m, rfl⟩ : ∃ m, n = m + 1 := ⟨n - 1, by omega⟩
    simp only [List.map_nil, List.nil_append] at hL
    refine ⟨s, ?_, hL⟩
    have hb : Bt (terminated parseGlobal multispace0) s := by
      rcases hts with rfl | ⟨t, ts', rfl, hg⟩
      · cases hL; exact terminated_ms0_bt.2 hbt
      · obtain ⟨r, _, htok, _⟩ := hL.uncons ht
        exact terminated_ms0_bt.2 (token_nonglobal_bt pf s t r htok hg)
    simpa using repeatFold_stop pf m acc hb
  | g :: gs, ts, s, n, acc, hL, hts, hn => by
    obtain ⟨m, rfl⟩ : ∃ m, n = m + 1 := ⟨n - 1, by omega⟩
    simp only [List.map_cons, List.cons_append] at hL
    obtain ⟨r, s1, htok, hr, hrest, hlen⟩ := hL.uncons ht
    have hbody : terminated parseGlobal multispace0 s = .ok g s1 :=
      terminated_ms0_ok.2 ⟨r, token_global_inv pf _ _ _ htok, hr⟩
    rw [repeatFold_step pf m acc s g s1 hbody hlen]
    obtain ⟨s', h1, h2⟩ := optLoop_layoutTo pf tail ht hbt gs ts s1 m (g :: acc) hrest hts (by omega)
    exact ⟨s', by simpa using h1, h2⟩

theorem leadingGlobals_layoutTo (pf : Profile) (tail : Text) (ht : NoLead tail) (hbt : Bt parseGlobal tail)
    (lead s : Text) (gs : List GlobalOption) (ts : List Token)
    (hlead : ∀ c ∈ lead, isBlank c = true) (hL : LayoutTo pf tail (gs.map Token.global ++ ts) s)
    (hts : ts = [] ∨ ∃ t ts', ts = t :: ts' ∧ isGlobalTok t = false) :
    ∃ s', leadingGlobals pf (lead ++ s) = .ok gs s' ∧ LayoutTo pf tail ts s' := by
  have hd : (lead ++ s).dropWhile isBlank = s := (run_split hlead (hL.head ht)).2
  obtain ⟨s', h1, h2⟩ := optLoop_layoutTo pf tail ht hbt gs ts s (s.length + 1) [] hL hts (by omega)
  refine ⟨s', ?_, h2⟩
  simp [leadingGlobals, preceded_ms0, hd, repeat0, map, h1]

theorem layoutTo_reads {pf : Profile} {tail lead s : Text} {gs : List GlobalOption} {pre : List Token}
    (ht : NoLead tail) (hbt : Bt parseGlobal tail) (hlead : ∀ c ∈ lead, isBlank c = true)
    (hL : LayoutTo pf tail (gs.map Token.global ++ pre) s)
    (hpre : pre = [] ∨ ∃ t ts', pre = t :: ts' ∧ isGlobalTok t = false) :
    ∃ s', leadingGlobals pf (lead ++ s) = .ok gs s' ∧ LexPrefix pf (s'.dropWhile isBlank) pre tail := by
  obtain ⟨s', hlg, hL'⟩ := leadingGlobals_layoutTo pf tail ht hbt lead s gs pre hlead hL hpre
  exact ⟨s', hlg, by rw [(hL'.head ht).dropWhile]; exact hL'.lexPrefix ht⟩

theorem Layout.lexPrefix {pf ts s} (h : Layout pf ts s) : LexPrefix pf s ts [] :=
  h.toLayoutTo.lexPrefix .nil

theorem optLoop_layout (pf : Profile) : ∀ (gs : List GlobalOption) (ts : List Token) (s : Text) (n : Nat)
    (acc : List GlobalOption), Layout pf (gs.map Token.global ++ ts) s →
    (ts = [] ∨ ∃ t ts', ts = t :: ts' ∧ isGlobalTok t = false) → s.length < n →
    ∃ s', repeatFold pf (terminated parseGlobal multispace0) (fun acc a => a :: acc) n acc s = .ok (gs.reverse ++ acc) s' ∧
      Layout pf ts s' := by
  intro gs ts s n acc hL hts hn
  obtain ⟨s', h1, h2⟩ := optLoop_layoutTo pf [] .nil parseGlobal_nil gs ts s n acc hL.toLayoutTo hts hn
  exact ⟨s', h1, h2.toLayout⟩

end FV

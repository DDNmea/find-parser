import FindVerif.Proofs.LexTables
import FindVerif.Model.Parse
/- `token`, alternative by alternative.  On an input that starts with a keyword of the tables the
   punctuation and operator-word alternatives backtrack, so do the tables before the keyword's own,
   and that table is the keyword's row.  The three tables then present their keywords to the layout
   and argument proofs under one interface (`Keyword`).  Last, `token`, `lex` and the loop over the
   leading options are `Safe`: every alternative of `token` is, the rows of the tables included,
   which is why this is proved here and not with the argument readers. -/
namespace FV
open W

/-- What must follow an operator word. -/
def opTerm : P Char Unit := alt [value () multispace1, eof]

/-- One operator-word alternative of `token`: the long spelling `a` or else the short one `b`. -/
def opAlt (t : Token) (a b : Text) : P Char Token :=
  value t (terminated (alt2 (lit a) (lit b)) opTerm)

/-- A keyword is safe for an operator word pair `(a, b)` if, wherever `a` or `b` matches at its
    start, the keyword continues with a non-blank character. -/
def opOk (kw a b : Text) : Bool :=
  if isPrefix a kw then (match kw.drop a.length with | c :: _ => !isBlank c | [] => false)
  else if isPrefix kw a then false
  else if isPrefix b kw then (match kw.drop b.length with | c :: _ => !isBlank c | [] => false)
  else !isPrefix kw b

theorem opTerm_bt {c : Char} (r : Text) (hc : isBlank c = false) : Bt opTerm (c :: r) :=
  alt2_bt.2 ⟨map_bt.2 ⟨_, _, multispace1_none (.cons r hc)⟩, [], _, rfl⟩

theorem lit_then_nonblank {w kw : Text} (hp : isPrefix w kw = true)
    (h : (match kw.drop w.length with | c :: _ => !isBlank c | [] => false) = true) (tail : Text) :
    ∃ x, lit w (kw ++ tail) = .ok () x ∧ Bt opTerm x := by
  obtain ⟨m, rfl⟩ := isPrefix_iff.1 hp
  rw [List.drop_left] at h
  cases m with
  | nil => cases h
  | cons c r => exact ⟨c :: (r ++ tail), by simp [lit_append], opTerm_bt _ (by simpa using h)⟩

theorem opAlt_bt {t : Token} {a b : Text} (kw tail : Text) (h : opOk kw a b = true) : Bt (opAlt t a b) (kw ++ tail) := by
  refine map_bt.2 (map_bt.2 (pair_bt.2 ?_))
  simp only [opOk] at h
  split at h
  next ha =>
    obtain ⟨x, hx, hbt⟩ := lit_then_nonblank ha h tail
    exact .inr ⟨(), x, by rw [alt2_of_not_bt fun hb => hb.ne_ok hx, hx], hbt⟩
  next ha =>
    split at h
    next => cases h
    next hka =>
      rw [Bool.not_eq_true] at ha hka
      have hna : Bt (lit a) (kw ++ tail) := lit_bt.2 (not_prefix_of_append a kw tail ha hka)
      split at h
      next hb =>
        obtain ⟨x, hx, hbt⟩ := lit_then_nonblank hb h tail
        exact .inr ⟨(), x, by rw [alt2_of_bt hna, hx], hbt⟩
      next hb =>
        rw [Bool.not_eq_true] at hb
        exact .inl (alt2_bt.2 ⟨hna, lit_bt.2 (not_prefix_of_append b kw tail hb (by simpa using h))⟩)

/-- What may follow an operator word. -/
def BlankLed (tail : Text) : Prop := tail = [] ∨ ∃ c r, tail = c :: r ∧ isBlank c = true

theorem opTerm_ok {tail : Text} (h : BlankLed tail) : opTerm tail = .ok () (tail.dropWhile isBlank) := by
  rcases h with rfl | ⟨c, r, rfl, hc⟩
  · rfl
  · exact alt_cons_of_ok (map_of_ok (takeWhile_of_le (by simp [hc])))

theorem opAlt_ok (t : Token) (a b : Text) {tail : Text} (h : BlankLed tail) :
    opAlt t a b (a ++ tail) = .ok t (tail.dropWhile isBlank) ∧
    (isPrefix a (b ++ tail) = false → opAlt t a b (b ++ tail) = .ok t (tail.dropWhile isBlank)) :=
  ⟨map_of_ok (map_of_ok (pair_of_ok (alt2_ok.2 (.inl (lit_append a tail))) (opTerm_ok h))),
   fun hna => map_of_ok (map_of_ok (pair_of_ok (alt2_ok.2 (.inr ⟨lit_bt.2 hna, lit_append b tail⟩)) (opTerm_ok h)))⟩

theorem long_op_not_prefix_of_short {tail : Text} (h : BlankLed tail) :
    isPrefix (cl!"-and") (cl!"-a" ++ tail) = false ∧ isPrefix (cl!"-or") (cl!"-o" ++ tail) = false := by
  rcases h with rfl | ⟨c, r, rfl, hc⟩
  · exact ⟨rfl, rfl⟩
  · have hn : 'n' ≠ c := fun he => by subst he; cases hc
    have hr : 'r' ≠ c := fun he => by subst he; cases hc
    simp [isPrefix, hn, hr]

def punctOk (kw : Text) : Bool :=
  !isPrefix (cl!"(") kw && !isPrefix (cl!")") kw && !isPrefix (cl!"!") kw && !isPrefix (cl!",") kw && !kw.isEmpty

def frontOk (kws : List Text) : Bool :=
  kws.all fun kw => punctOk kw && opOk kw (cl!"-or") (cl!"-o") && opOk kw (cl!"-and") (cl!"-a")

/-- The alternatives of `token` before the keyword tables, and from the tables on. -/
def tokenFront : List (P Char Token) :=
  [ value Token.lparen (lit (cl!"(")), value Token.rparen (lit (cl!")")), value Token.not (lit (cl!"!")),
    value Token.comma (lit (cl!",")), opAlt Token.or (cl!"-or") (cl!"-o"), opAlt Token.and (cl!"-and") (cl!"-a") ]

def tokenBack (pf : Profile) : List (P Char Token) :=
  [ map Token.test (parseTest pf), map Token.action (parseAction pf), map Token.global parseGlobal,
    map Token.positional parsePositional, context (expected (cl!"invalid_token")) fail ]

theorem token_split (pf : Profile) : token pf = context (label (cl!"syntax")) (alt (tokenFront ++ tokenBack pf)) := rfl

def punctTable : List (Text × Token) := [(cl!"(", .lparen), (cl!")", .rparen), (cl!"!", .not), (cl!",", .comma)]

theorem alt_tokenFront (back : List (P Char Token)) (i : Text) :
    alt (tokenFront ++ back) i =
      match punctTable.find? (fun kv => isPrefix kv.1 i) with
      | some kv => .ok kv.2 (i.drop kv.1.length)
      | none => alt (opAlt .or (cl!"-or") (cl!"-o") :: opAlt .and (cl!"-and") (cl!"-a") :: back) i :=
  -- the `match` here and the one in `alt_table` are different auxiliary functions, equal at each result of the lookup
  (alt_table Prod.fst Prod.snd punctTable (opAlt .or (cl!"-or") (cl!"-o") :: opAlt .and (cl!"-and") (cl!"-a") :: back) i).trans
    (by cases punctTable.find? fun kv => isPrefix kv.1 i <;> rfl)

theorem alt_punct {w : Text} (hw : punctOk w = true) (tail : Text) (back : List (P Char Token)) :
    alt (tokenFront ++ back) (w ++ tail) =
      alt (opAlt .or (cl!"-or") (cl!"-o") :: opAlt .and (cl!"-and") (cl!"-a") :: back) (w ++ tail) := by
  simp only [punctOk, Bool.and_eq_true, Bool.not_eq_true', List.isEmpty_eq_false_iff] at hw
  obtain ⟨⟨⟨⟨h1, h2⟩, h3⟩, h4⟩, hne⟩ := hw
  have miss : ∀ s : Text, s.length = 1 → isPrefix s w = false → isPrefix s (w ++ tail) = false :=
    fun s hs h => not_prefix_of_length_le tail h (hs ▸ List.length_pos_iff.2 hne)
  rw [alt_tokenFront]
  simp only [punctTable, List.find?_cons, miss _ rfl h1, miss _ rfl h2, miss _ rfl h3, miss _ rfl h4, List.find?_nil]

theorem token_skips_front (pf : Profile) {kws : List Text} (hfr : frontOk kws = true) {kw : Text} (hk : kw ∈ kws) (tail : Text) :
    token pf (kw ++ tail) = context (label (cl!"syntax")) (alt (tokenBack pf)) (kw ++ tail) := by
  simp only [frontOk, List.all_eq_true, Bool.and_eq_true] at hfr
  obtain ⟨⟨hp, ho⟩, ha⟩ := hfr kw hk
  rw [token_split]
  refine context_of_eq ?_
  rw [alt_punct hp, alt_cons_of_bt (opAlt_bt kw tail ho) (by simp),
    alt_cons_of_bt (opAlt_bt kw tail ha) (by simp [tokenBack])]

theorem token_operator (pf : Profile) {tail : Text} (h : BlankLed tail) :
    token pf (cl!"-a" ++ tail) = .ok .and (tail.dropWhile isBlank) ∧
    token pf (cl!"-and" ++ tail) = .ok .and (tail.dropWhile isBlank) ∧
    token pf (cl!"-o" ++ tail) = .ok .or (tail.dropWhile isBlank) ∧
    token pf (cl!"-or" ++ tail) = .ok .or (tail.dropWhile isBlank) := by
  have hand := opAlt_ok .and (cl!"-and") (cl!"-a") h
  have hor := opAlt_ok .or (cl!"-or") (cl!"-o") h
  have hnl := long_op_not_prefix_of_short h
  have isOr : ∀ w : Text, punctOk w = true → opAlt .or (cl!"-or") (cl!"-o") (w ++ tail) = .ok .or (tail.dropWhile isBlank) →
      token pf (w ++ tail) = .ok .or (tail.dropWhile isBlank) := fun w hw hok => by
    rw [token_split, context_ok, alt_punct hw, alt_cons_of_ok hok]
  have isAnd : ∀ w : Text, punctOk w = true → opOk w (cl!"-or") (cl!"-o") = true →
      opAlt .and (cl!"-and") (cl!"-a") (w ++ tail) = .ok .and (tail.dropWhile isBlank) →
      token pf (w ++ tail) = .ok .and (tail.dropWhile isBlank) := fun w hw ho hok => by
    rw [token_split, context_ok, alt_punct hw, alt_cons_of_bt (opAlt_bt w tail ho) (by simp), alt_cons_of_ok hok]
  exact ⟨isAnd _ rfl rfl (hand.2 hnl.1), isAnd _ rfl rfl hand.1, isOr _ rfl (hor.2 hnl.2), isOr _ rfl hor.1⟩

/-- The checks on the closed list of a table's keywords. -/
structure KwList (kws : List Text) : Prop where
  order : orderSafe kws = true
  chars : kwCharsOk kws = true
  dash : dashed kws = true
  front : frontOk kws = true

theorem testKws_ok : KwList testKws := ⟨by decide +kernel, by decide +kernel, by decide +kernel, by decide +kernel⟩
theorem actionKws_ok : KwList actionKws := ⟨by decide +kernel, by decide +kernel, by decide +kernel, by decide +kernel⟩
theorem globalKws_ok : KwList globalKws := ⟨by decide +kernel, by decide +kernel, by decide +kernel, by decide +kernel⟩

/-- A keyword table of `token`; `kws` is the closed list of its keywords, on which the checks are evaluated. -/
structure KwTable {τ : Type} (alts : List (Text × P Char τ)) (kws : List Text) : Prop extends KwList kws where
  keys : alts.map Prod.fst = kws
  rows : ∀ kp ∈ alts, KwRow kp.1 kp.2

theorem testTable (pf : Profile) : KwTable (testAlts pf) testKws := ⟨testKws_ok, rfl, testAlts_rows pf⟩
theorem actionTable (pf : Profile) : KwTable (actionAlts pf) actionKws := ⟨actionKws_ok, rfl, actionAlts_rows pf⟩
theorem globalTable : KwTable globalAlts globalKws := ⟨globalKws_ok, rfl, globalAlts_rows⟩

def crossSafe (as bs : List Text) : Bool := as.all fun a => bs.all fun b => !isPrefix a b

theorem crossSafe_append {as bs : List Text} (h : crossSafe as bs = true ∧ crossSafe bs as = true)
    {a b : Text} (ha : a ∈ as) (hb : b ∈ bs) (x : Text) : isPrefix a (b ++ x) = false := by
  simp only [crossSafe, List.all_eq_true, Bool.not_eq_true'] at h
  exact not_prefix_of_append _ _ _ (h.1 a ha b hb) (h.2 b hb a ha)

theorem table_bt2 {α : Type} (alts : List (Text × P Char α)) (hk : ∀ kp ∈ alts, KwAlt kp.1 kp.2)
    (others : List Text) (hx1 : crossSafe (alts.map Prod.fst) others = true)
    (hx2 : crossSafe others (alts.map Prod.fst) = true)
    (kw : Text) (hkw : kw ∈ others) (tail : Text) : Bt (alt (alts.map Prod.snd)) (kw ++ tail) :=
  table_bt hk fun _ hkp => crossSafe_append ⟨hx1, hx2⟩ (List.mem_map_of_mem hkp) hkw tail

namespace KwTable
variable {τ : Type} {alts : List (Text × P Char τ)} {kws : List Text} {kw : Text} {p : P Char τ}

theorem mem (T : KwTable alts kws) (hm : (kw, p) ∈ alts) : kw ∈ kws :=
  T.keys ▸ List.mem_map_of_mem (f := Prod.fst) hm

theorem select (T : KwTable alts kws) {mk : τ → Token} {cat : Text} {rest : List (P Char Token)}
    (hm : (kw, p) ∈ alts) {tail : Text} (hf : Follows tail) :
    alt (map mk (context (label cat) (alt (alts.map Prod.snd))) :: rest) (kw ++ tail) =
      map mk (context (label cat) p) (kw ++ tail) := by
  have hsel := table_select T.rows (T.keys ▸ T.order) (T.keys ▸ T.chars) hm hf
  have hnb : ¬ Bt (map mk (context (label cat) (alt (alts.map Prod.snd)))) (kw ++ tail) := by
    rw [map_bt, context_bt, Bt, hsel]
    exact (T.rows _ hm).not_bt tail
  rw [alt_cons_of_not_bt hnb]
  simp only [map, context, hsel]

theorem bt_on (T : KwTable alts kws) (mk : τ → Token) (cat : Text) {others : List Text}
    (hx : crossSafe kws others = true ∧ crossSafe others kws = true) (hkw : kw ∈ others) (tail : Text) :
    Bt (map mk (context (label cat) (alt (alts.map Prod.snd)))) (kw ++ tail) :=
  map_bt.2 (context_bt.2 (table_bt2 alts (fun kp h => (T.rows kp h).kwAlt) others (T.keys ▸ hx.1) (T.keys ▸ hx.2)
    kw hkw tail))

end KwTable

theorem test_action_cross : crossSafe testKws actionKws = true ∧ crossSafe actionKws testKws = true :=
  ⟨by decide +kernel, by decide +kernel⟩
theorem test_global_cross : crossSafe testKws globalKws = true ∧ crossSafe globalKws testKws = true :=
  ⟨by decide +kernel, by decide +kernel⟩
theorem action_global_cross : crossSafe actionKws globalKws = true ∧ crossSafe globalKws actionKws = true :=
  ⟨by decide +kernel, by decide +kernel⟩

theorem token_at_global (pf : Profile) (kw : Text) (hkw : kw ∈ globalKws) (tail : Text) :
    token pf (kw ++ tail) =
      context (label (cl!"syntax"))
        (alt [map Token.global parseGlobal, map Token.positional parsePositional,
              context (expected (cl!"invalid_token")) fail]) (kw ++ tail) := by
  rw [token_skips_front pf globalKws_ok.front hkw, tokenBack, parseTest, parseAction]
  refine context_of_eq ?_
  rw [alt_cons_of_bt ((testTable pf).bt_on Token.test (cl!"test") test_global_cross hkw tail) (by simp),
    alt_cons_of_bt ((actionTable pf).bt_on Token.action (cl!"action") action_global_cross hkw tail) (by simp)]

theorem parseGlobal_bt (i : Text) (h : ∀ kw ∈ globalKws, isPrefix kw i = false) : Bt parseGlobal i :=
  parseGlobal_eq ▸ context_bt.2
    (table_bt (fun kp hkp => (globalTable.rows kp hkp).kwAlt) fun kp hkp => h kp.1 (globalTable.mem hkp))

theorem parseGlobal_nil : Bt parseGlobal [] := parseGlobal_bt [] (by decide)

theorem parseGlobal_bt_kw (kw : Text) (h : kw ∈ testKws ∨ kw ∈ actionKws) (x : Text) : Bt parseGlobal (kw ++ x) :=
  parseGlobal_bt _ fun _ hg => h.elim (fun hk => crossSafe_append test_global_cross.symm hg hk x)
    (fun hk => crossSafe_append action_global_cross.symm hg hk x)

/-- `kw` is a keyword of the table labelled `cat`, whose results `mk` turns into tokens, with the row `p`. -/
structure Keyword {τ : Type} (pf : Profile) (mk : τ → Token) (cat kw : Text) (p : P Char τ) : Prop where
  dash : ∃ r, kw = '-' :: r
  eq : ∀ {tail}, Follows tail →
    token pf (kw ++ tail) = context (label (cl!"syntax")) (map mk (context (label cat) p)) (kw ++ tail)

theorem keyword_test {pf : Profile} {kw : Text} {p : P Char Test} (hm : (kw, p) ∈ testAlts pf) :
    Keyword pf Token.test (cl!"test") kw p :=
  have T := testTable pf
  ⟨dashed_mem T.dash (T.mem hm), fun {tail} hf => by
    rw [token_skips_front pf T.front (T.mem hm), tokenBack]
    exact context_of_eq (T.select hm hf)⟩

theorem keyword_action {pf : Profile} {kw : Text} {p : P Char Action} (hm : (kw, p) ∈ actionAlts pf) :
    Keyword pf Token.action (cl!"action") kw p :=
  have T := actionTable pf
  ⟨dashed_mem T.dash (T.mem hm), fun {tail} hf => by
    rw [token_skips_front pf T.front (T.mem hm), tokenBack, parseTest]
    refine context_of_eq ?_
    rw [alt_cons_of_bt ((testTable pf).bt_on Token.test (cl!"test") test_action_cross (T.mem hm) tail) (by simp)]
    exact T.select hm hf⟩

theorem keyword_global {pf : Profile} {kw : Text} {p : P Char GlobalOption} (hm : (kw, p) ∈ globalAlts) :
    Keyword pf Token.global (cl!"global_option") kw p :=
  have T := globalTable
  ⟨dashed_mem T.dash (T.mem hm), fun {tail} hf => by
    rw [token_at_global pf kw (T.mem hm), parseGlobal_eq]
    exact context_of_eq (T.select hm hf)⟩

namespace Keyword
variable {τ α : Type} {pf : Profile} {mk : τ → Token} {cat kw : Text} {p : P Char τ}

theorem token_eq (K : Keyword pf mk cat kw p) {tail : Text} (hf : Follows tail) :
    token pf (kw ++ tail) =
      match p (kw ++ tail) with
      | .ok t r => .ok (mk t) r
      | .err k c r => .err k (c ++ [label cat, label (cl!"syntax")]) r
      | .panic s => .panic s := by
  rw [K.eq hf]
  simp only [context, map]
  cases p (kw ++ tail) with
  | ok _ _ => rfl
  | err _ _ _ => simp only [List.append_assoc, List.cons_append, List.nil_append]
  | panic _ => rfl

theorem head (K : Keyword pf mk cat kw p) (x : Text) : ∃ c r, kw ++ x = c :: r ∧ isBlank c = false := by
  obtain ⟨r, rfl⟩ := K.dash
  exact ⟨'-', r ++ x, rfl, rfl⟩

theorem noLead (K : Keyword pf mk cat kw p) (x : Text) : NoLead (kw ++ x) := .inr (K.head x)

theorem ne_nil (K : Keyword pf mk cat kw p) : kw ≠ [] := by
  obtain ⟨r, rfl⟩ := K.dash
  exact List.cons_ne_nil _ _

theorem ne_category (K : Keyword pf mk cat kw p) :
    kw ≠ cl!"test" ∧ kw ≠ cl!"action" ∧ kw ≠ cl!"global_option" := by
  obtain ⟨r, rfl⟩ := K.dash
  exact ⟨by simp, by simp, by simp⟩

theorem token_unary {tr : α → τ} {argp : P Char α} (K : Keyword pf mk cat kw (unary kw tr argp))
    {ws x : Text} (h : BlankRun ws x) :
    token pf (kw ++ (ws ++ x)) =
      match argp x with
      | .ok v r => .ok (mk (tr v)) r
      | .err _ c r => .err true (c ++ [label kw, label cat, label (cl!"syntax")]) r
      | .panic s => .panic s := by
  rw [K.token_eq h.follows, unary_eval kw tr argp ws x h]
  cases argp x with
  | ok _ _ => rfl
  | err _ _ _ => simp only [List.append_assoc, List.cons_append, List.nil_append]
  | panic _ => rfl

theorem token_unary_ok {tr : α → τ} {argp : P Char α} (K : Keyword pf mk cat kw (unary kw tr argp))
    {ws x r : Text} {v : α} (h : BlankRun ws x) (ha : argp x = .ok v r) :
    token pf (kw ++ (ws ++ x)) = .ok (mk (tr v)) r := by
  rw [K.token_unary h, ha]

theorem token_missing {tr : α → τ} {argp : P Char α} (K : Keyword pf mk cat kw (unary kw tr argp)) :
    token pf kw = .err true [label kw, label cat, label (cl!"syntax")] [] := by
  have := K.token_eq (tail := []) (Or.inl rfl)
  rw [unary_missing kw tr argp .nil] at this
  simpa using this

end Keyword

theorem safe_parsePositional : Safe parsePositional true := ((safe_lit _).value _).context _

theorem safe_opAlt {t : Token} {a b : Text} (ha : (!a.isEmpty) = true) (hb : (!b.isEmpty) = true) :
    Safe (opAlt t a b) true :=
  Safe.value _ (Safe.terminated (s := true) (t := false) (.alt2 (ha ▸ safe_lit a) (hb ▸ safe_lit b))
    (.alt2 (safe_multispace1.value _).weaken safe_eof))

theorem safe_token (pf : Profile) : Safe (token pf) true := by
  refine token_split pf ▸ Safe.context _ (.alt ?_)
  -- the eleven alternatives, in the order of `token`
  simp only [tokenFront, tokenBack, List.cons_append, List.nil_append, List.forall_mem_cons]
  exact ⟨(safe_lit _).value _, (safe_lit _).value _, (safe_lit _).value _, (safe_lit _).value _,
    safe_opAlt rfl rfl, safe_opAlt rfl rfl, (safe_parseTest pf).map _, (safe_parseAction pf).map _,
    safe_parseGlobal.map _, safe_parsePositional.map _, safe_fail.context _, nofun⟩

theorem safe_lex (pf : Profile) : Safe (lex pf) true :=
  Safe.map _ (safe_multispace0.preceded (Safe.repeatTill1 pf ((safe_token pf).terminated safe_multispace0) safe_eof))

theorem lex_eq (pf : Profile) (i : Text) :
    lex pf i = map Prod.fst (repeatTill1 pf (terminated (token pf) multispace0) eof) (i.dropWhile isBlank) := by
  simp only [lex, map, preceded_ms0]

theorem safe_leadingGlobals (pf : Profile) : Safe (leadingGlobals pf) false :=
  safe_multispace0.preceded (Safe.repeat0 pf (safe_parseGlobal.terminated safe_multispace0))

end FV

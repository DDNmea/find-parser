import FindVerif.Proofs.CompileRun
import FindVerif.Model.GenS
/- The structured generator seen from outside, like the text generator in `CompileRun`: `genExpr` node
   by node in terms of `CRes.mapOk` and `CRes.thenOk`, and `compileS` as one run of `genExpr` (`compileS_eq`). -/
namespace FV
open Scheme

theorem genExpr_not (clk : Nat → Nat) (e : Expr) (st : CState) :
    genExpr clk (.not e) st = (genExpr clk e st).mapOk fun x => call (cl!"not") [x] := by
  rw [genExpr]
  cases genExpr clk e st <;> rfl

theorem genExpr.bin_eq (hd : Text) (l : CRes (SExp × CState)) (r : CState → CRes (SExp × CState)) :
    genExpr.bin hd l r = l.thenOk (fun xl xr => call hd [xl, xr]) r := by
  cases l with
  | ok p =>
    simp only [genExpr.bin, CRes.thenOk]
    cases r p.2 <;> rfl
  | err e => rfl
  | panic p => rfl

theorem genExpr_and (clk : Nat → Nat) (a b : Expr) (st : CState) :
    genExpr clk (.and a b) st = (genExpr clk a st).thenOk (fun xl xr => call (cl!"and") [xl, xr]) (genExpr clk b) :=
  genExpr.bin_eq _ _ _

theorem genExpr_list (clk : Nat → Nat) (a b : Expr) (st : CState) :
    genExpr clk (.list a b) st = (genExpr clk a st).thenOk (fun xl xr => call (cl!"and") [xl, xr]) (genExpr clk b) :=
  genExpr.bin_eq _ _ _

theorem genExpr_or (clk : Nat → Nat) (a b : Expr) (st : CState) :
    genExpr clk (.or a b) st = (genExpr clk a st).thenOk (fun xl xr => call (cl!"or") [xl, xr]) (genExpr clk b) :=
  genExpr.bin_eq _ _ _

theorem genTest_xattrMatch (clk : Nat → Nat) (f v : Text) (st : CState) :
    genTest clk (.xattrMatch f v) st =
      .ok (if !(f.any isOffending || v.any isOffending) then
          call (cl!"equal?") [call (cl!"xattr-ref-string") [.str f], .str v]
        else call (cl!"xattr-match?") [.str f, .str v], st) := by
  show (if _ then _ else _) = _
  split <;> rfl

theorem genAction_printFormatted (es : List FormatElement) (st : CState) :
    genAction (.printFormatted es) st = (CRes.ofExcept (genFormat es)).map fun f =>
      (call (st.mgr.getPrinter none).1 [f], { st with mgr := (st.mgr.getPrinter none).2 }) := by
  show (match genFormat es with | .error x => _ | .ok f => _) = _
  cases genFormat es <;> rfl

theorem genAction_filePrintFormatted (d : Text) (es : List FormatElement) (st : CState) :
    genAction (.filePrintFormatted d es) st = (CRes.ofExcept (genFormat es)).map fun f =>
      (call (st.mgr.getFilePrinter d none).1 [f], { st with mgr := (st.mgr.getFilePrinter d none).2 }) := by
  show (match genFormat es with | .error x => _ | .ok f => _) = _
  cases genFormat es <;> rfl

theorem compileS_eq (clk : Nat → Nat) (e : Expr) :
    compileS clk e = (genExpr clk (policyTree e) { mgr := initialManager e }).map fun p =>
      { bindings := p.2.mgr.vars.map Binding.sexp, body := p.1, ioMap := p.2.mgr.printerMap } := by
  unfold compileS
  change (match genExpr clk (policyTree e) { mgr := initialManager e } with
    | .err x => CRes.err x
    | .panic s => CRes.panic s
    | .ok (body, st) =>
      (.ok { bindings := st.mgr.vars.map Binding.sexp, body := body, ioMap := st.mgr.printerMap } : CRes ProgramS)) = _
  cases genExpr clk (policyTree e) { mgr := initialManager e } <;> rfl

end FV

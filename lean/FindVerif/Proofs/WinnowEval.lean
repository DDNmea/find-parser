import FindVerif.Proofs.WinnowRepeat
/- What the combinators return on an input of known shape; in particular an `alt` over rows
   `value v (lit k)` is a lookup of the first key that is a prefix of the input.  `BlankRun` and `NoLead`,
   in which the layout statements speak of blanks, are defined here. -/
namespace FV
open W

theorem lit_append (kw tail : Text) : lit kw (kw ++ tail) = .ok () tail := by
  simp [lit, isPrefix_append]

theorem lit_fail (kw i : Text) (h : isPrefix kw i = false) : lit kw i = .err false [] i := by
  simp [lit, h]

theorem lit_bt {kw i : Text} : Bt (lit kw) i ↔ isPrefix kw i = false := by
  cases h : isPrefix kw i <;> simp [Bt, lit, h]

theorem preceded_lit {α} (kw : Text) (q : P Char α) (i : Text) :
    preceded (lit kw) q i = if isPrefix kw i then q (i.drop kw.length) else .err false [] i := by
  simp only [preceded, map, pair, lit]
  cases isPrefix kw i
  · rfl
  · simp only [if_true]
    cases q (i.drop kw.length) <;> rfl

theorem preceded_lit_cons {β : Type} (c : Char) (q : P Char β) (cs : Text) : preceded (lit [c]) q (c :: cs) = q cs := by
  simp [preceded_lit, isPrefix]

theorem preceded_lit_cons_ne {β : Type} {c d : Char} (q : P Char β) (cs : Text) (h : c ≠ d) :
    Bt (preceded (lit [c]) q) (d :: cs) :=
  ⟨[], d :: cs, by simp [preceded_lit, isPrefix, h]⟩

theorem map_preceded_lit_ok {α β : Type} {c : Char} {f : α → β} {q : P Char α} {cs r : Text} {v : α}
    (h : q cs = .ok v r) : map f (preceded (lit [c]) q) (c :: cs) = .ok (f v) r :=
  map_of_ok ((preceded_lit_cons c q cs).trans h)

theorem map_preceded_lit_bt {α β : Type} {c d : Char} {f : α → β} {q : P Char α} {cs : Text} (h : c ≠ d) :
    Bt (map f (preceded (lit [c]) q)) (d :: cs) := by
  obtain ⟨c', r, h⟩ := preceded_lit_cons_ne q cs h
  exact ⟨c', r, by simp only [map, h]⟩

theorem preceded_lit_bt {α} {kw : Text} {q : P Char α} (hq : ∀ j, ¬ Bt q j) (i : Text) :
    Bt (preceded (lit kw) q) i ↔ isPrefix kw i = false := by
  simp only [Bt, preceded_lit]
  cases h : isPrefix kw i
  · simp
  · simpa using fun c r => not_exists.mp (not_exists.mp (hq (i.drop kw.length)) c) r

theorem preceded_oneOf_cons {ι β : Type} (f : ι → Bool) (q : P ι β) (t : ι) (r : List ι) :
    preceded (oneOf f) q (t :: r) = if f t then q r else .err false [] (t :: r) := by
  cases hf : f t
  · simp [preceded, pair, map, oneOf, hf]
  · cases hq : q r <;> simp [preceded, pair, map, oneOf, hf, hq]

theorem alt_lit_cons {β : Type} (k : Text) (v : β) (ps : List (P Char β)) (i : Text) :
    alt (value v (lit k) :: ps) i = if isPrefix k i then .ok v (i.drop k.length) else alt ps i := by
  cases ps with
  | nil => by_cases h : isPrefix k i = true <;> simp [alt, value, map, lit, fail, h]
  | cons q qs => by_cases h : isPrefix k i = true <;> simp [alt, alt2, value, map, lit, h]

theorem alt_table {β γ : Type} (k : γ → Text) (v : γ → β) (tbl : List γ) (tail : List (P Char β)) (i : Text) :
    alt ((tbl.map fun x => value (v x) (lit (k x))) ++ tail) i =
      match tbl.find? (fun x => isPrefix (k x) i) with
      | some x => .ok (v x) (i.drop (k x).length)
      | none => alt tail i := by
  induction tbl with
  | nil => rfl
  | cons x tbl ih =>
    rw [List.map_cons, List.cons_append, alt_lit_cons, List.find?_cons, ih]
    cases isPrefix (k x) i <;> rfl

theorem alt_charTable {β : Type} (tbl : List (Char × β)) (a : Char) (r : Text) :
    alt (tbl.map fun kv => value kv.2 (lit [kv.1])) (a :: r) =
      match tbl.find? (fun kv => kv.1 = a) with
      | some kv => .ok kv.2 r
      | none => .err false [] (a :: r) := by
  have h := alt_table (fun kv : Char × β => [kv.1]) Prod.snd tbl [] (a :: r)
  have hp : (fun kv : Char × β => isPrefix [kv.1] (a :: r)) = fun kv => decide (kv.1 = a) := by
    funext kv; simp [isPrefix]
  rw [List.append_nil, hp] at h
  rw [h]
  cases tbl.find? fun kv => decide (kv.1 = a) <;> rfl

theorem takeWhile_run {α} {m : Nat} {p : α → Bool} {xs rest : List α} (hm : m ≤ xs.length)
    (hx : ∀ c ∈ xs, p c = true) (hs : rest = [] ∨ ∃ c r, rest = c :: r ∧ p c = false) :
    takeWhile m p (xs ++ rest) = .ok xs rest := by
  simp [takeWhile, run_split hx hs, hm]

theorem takeWhile_of_le {α} {m : Nat} {p : α → Bool} {i : List α} (h : m ≤ (i.takeWhile p).length) :
    takeWhile m p i = .ok (i.takeWhile p) (i.dropWhile p) := by
  simp only [takeWhile, h, if_true]

theorem takeWhile_bt {α} {m : Nat} {p : α → Bool} {i : List α} (h : (i.takeWhile p).length < m) :
    Bt (takeWhile m p) i :=
  ⟨[], i, by simp only [takeWhile, Nat.not_le.2 h, if_false]⟩

theorem oneOf_stop {α} {p : α → Bool} {i : List α} (h : i = [] ∨ ∃ c r, i = c :: r ∧ p c = false) : Bt (oneOf p) i := by
  rcases h with rfl | ⟨c, r, rfl, hc⟩
  · exact ⟨[], [], rfl⟩
  · exact ⟨[], c :: r, by simp only [oneOf, hc, Bool.false_eq_true, if_false]⟩

theorem oneOf_cons {α} {p : α → Bool} {c : α} (r : List α) (h : p c = true) : oneOf p (c :: r) = .ok c r := by
  simp only [oneOf, h, if_true]

theorem eof_nil {α} : eof ([] : List α) = .ok () [] := rfl

theorem eof_cons_bt {α} (c : α) (r : List α) : Bt eof (c :: r) := ⟨[], _, rfl⟩

theorem takeUntil1_quoted (d : Char) (s rest : Text) (hne : s ≠ []) (hs : ∀ c ∈ s, c ≠ d) :
    takeUntil1 d (s ++ d :: rest) = .ok s (d :: rest) := by
  have h := takeWhile_ne_append s rest hs
  simp only [takeUntil1, h.1, h.2]
  obtain ⟨c, r, rfl⟩ := List.exists_cons_of_ne_nil hne
  rfl

def BlankRun (ws tail : Text) : Prop :=
  ws ≠ [] ∧ (∀ c ∈ ws, isBlank c = true) ∧ (tail = [] ∨ ∃ c r, tail = c :: r ∧ isBlank c = false)

theorem multispace1_run (ws tail : Text) (h : BlankRun ws tail) : multispace1 (ws ++ tail) = .ok ws tail :=
  takeWhile_run (List.length_pos_iff.mpr h.1) h.2.1 h.2.2

/-- No blank in front. -/
def NoLead (tail : Text) : Prop := tail = [] ∨ ∃ c r, tail = c :: r ∧ isBlank c = false

theorem NoLead.nil : NoLead [] := .inl rfl

theorem NoLead.cons {c : Char} (r : Text) (h : isBlank c = false) : NoLead (c :: r) := .inr ⟨c, r, rfl, h⟩

theorem NoLead.append {w : Text} (h : ∃ c r, w = c :: r ∧ isBlank c = false) (x : Text) : NoLead (w ++ x) := by
  obtain ⟨c, r, rfl, hc⟩ := h
  exact .cons (r ++ x) hc

theorem NoLead.dropWhile {s : Text} (h : NoLead s) : s.dropWhile isBlank = s :=
  (run_split (xs := []) nofun h).2

theorem multispace1_none {tail : Text} (h : NoLead tail) : multispace1 tail = .err false [] tail := by
  have ht : tail.takeWhile isBlank = [] := (run_split (xs := []) nofun h).1
  simp [multispace1, takeWhile, ht]

theorem multispace0_ok (i : Text) : multispace0 i = .ok (i.takeWhile isBlank) (i.dropWhile isBlank) :=
  takeWhile_of_le (Nat.zero_le _)

theorem preceded_ms0 {β} (q : P Char β) (i : Text) : preceded multispace0 q i = q (i.dropWhile isBlank) := by
  cases h : q (i.dropWhile isBlank) <;> simp [preceded, pair, map, multispace0_ok, h]

theorem terminated_ms0_ok {α} {p : P Char α} {i a r} :
    terminated p multispace0 i = .ok a r ↔ ∃ r₁, p i = .ok a r₁ ∧ r₁.dropWhile isBlank = r := by
  simp only [terminated_ok, multispace0_ok, Res.ok.injEq]
  exact ⟨fun ⟨_, r₁, hp, _, hr⟩ => ⟨r₁, hp, hr⟩, fun ⟨r₁, hp, hr⟩ => ⟨_, r₁, hp, rfl, hr⟩⟩

theorem terminated_ms0_bt {α} {p : P Char α} {i} : Bt (terminated p multispace0) i ↔ Bt p i :=
  map_bt.trans (pair_bt.trans (or_iff_left fun ⟨_, r₁, _, hb⟩ => hb.ne_ok (multispace0_ok r₁)))

theorem value_lit_append {α} {v : α} {kw : Text} (tail : Text) : value v (lit kw) (kw ++ tail) = .ok v tail := by
  simp only [value, map, lit_append]

theorem value_lit_blanks_append {α} {v : α} {kw : Text} (tail : Text) :
    value v (terminated (lit kw) multispace0) (kw ++ tail) = .ok v (tail.dropWhile isBlank) := by
  simp only [value, map, terminated, pair, lit_append, multispace0_ok]

theorem repeat0_any (pf : Profile) (i : Text) : repeat0 pf (any : P Char Char) i = .ok i [] := by
  have gen : ∀ (j : Text) (fuel : Nat) (acc : List Char), j.length < fuel →
      repeatFold pf (any : P Char Char) (fun acc a => a :: acc) fuel acc j = .ok (j.reverse ++ acc) [] := by
    intro j
    induction j with
    | nil => intro fuel acc h; cases fuel with
      | zero => omega
      | succ n => simp [repeatFold, any]
    | cons c cs ih =>
      intro fuel acc h
      cases fuel with
      | zero => omega
      | succ n =>
        rw [repeatFold_step pf n acc (c :: cs) c cs rfl (by simp), ih n (c :: acc) (by simp at h; omega)]
        simp
  simp [repeat0, map, gen i (i.length + 1) [] (by omega)]

end FV

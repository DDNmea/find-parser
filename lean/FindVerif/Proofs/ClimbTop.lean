import FindVerif.Proofs.ClimbComplete
/- Top level of the climber: `parser` runs `list` once.  Wherever a level ends the AND loop has
   stopped, so `atom` backtracks there and no second list begins; only `eof` is left to decide.
   Hence a parse is a parse of the whole input. -/
namespace FV
open W Spec

theorem foldLevel_rest {sub body : P Token Expr} {mk : Expr → Expr → Expr} {pf : Profile} {Q : List Token → Prop}
    (hs : ∀ {i e r}, sub i = .ok e r → Q r) (hb : ∀ {i e r}, body i = .ok e r → Q r)
    {i e r} (h : foldLevel pf sub body mk i = .ok e r) : Q r ∧ Bt body r := by
  obtain ⟨e₀, r₀, h1, h2⟩ := foldLevel_ok.1 h
  exact repeatFold_inv (p := body) (fun _ j => Q j) pf (fun _ _ _ _ _ hj => hb hj) h2 (hs h1)

section levels
variable {a : P Token Expr} (pf : Profile) {i r : List Token} {e : Expr}

theorem andLevel_rest (h : andLevel pf a i = .ok e r) : Bt (andBody a) r :=
  (foldLevel_rest (Q := fun _ => True) (fun _ => trivial) (fun _ => trivial) h).2

theorem orLevel_rest (h : orLevel pf a i = .ok e r) : Bt (andBody a) r :=
  (foldLevel_rest (andLevel_rest pf) (fun hb => (kwThen_ok.1 hb).elim fun _ hb => andLevel_rest pf hb.2) h).1

theorem listLevel_rest (h : listLevel pf a i = .ok e r) : Bt (andBody a) r :=
  (foldLevel_rest (orLevel_rest pf) (fun hb => (kwThen_ok.1 hb).elim fun _ hb => orLevel_rest pf hb.2) h).1

theorem listLevel_bt (h : Bt a i) : Bt (listLevel pf a) i := by
  obtain ⟨c, r, h⟩ := h
  exact ⟨c, r, foldLevel_err (foldLevel_err (foldLevel_err h))⟩

theorem listLevel_end (h : listLevel pf a i = .ok e r) : Bt (listLevel pf a) r :=
  listLevel_bt pf (andBody_bt.1 (listLevel_rest pf h)).2

end levels

theorem climb_eq (pf : Profile) (ts : List Token) : climb pf ts =
    match list pf (ts.length + 1) ts with
    | .ok e [] => .ok e []
    | .ok _ r => context (.label (cl!"grammar")) (list pf (ts.length + 1)) r
    | _ => context (.label (cl!"grammar")) (list pf (ts.length + 1)) ts := by
  unfold climb climbWith
  cases hl : list pf (ts.length + 1) ts with
  | ok a r1 =>
    rw [mapOrPanic, context, repeatTill1_first hl]
    cases r1 with
    | nil => rw [repeatTillLoop_stop pf _ [a] eof_nil]; rfl
    | cons t r' =>
      -- where the list ends no list begins: `eof` and `list` both backtrack, and that is the loop's error
      obtain ⟨c, r3, hb⟩ := listLevel_end pf hl
      have hb' : list pf (ts.length + 1) (t :: r') = .err false c r3 := hb
      rw [repeatTillLoop_err pf _ _ (eof_cons_bt _ _) hb']
      simp only [context, hb']
  | err k c r => simp only [mapOrPanic, context, repeatTill1_err hl, hl]
  | panic s => simp only [mapOrPanic, context, repeatTill1, hl]

theorem climb_complete (pf : Profile) {ts e} (h : GList ts e) : climb pf ts = .ok e [] := by
  have hl := (list_complete pf h (ts.length + 1) [] (by simp) (.inl rfl)).trans (listLoop_stop pf _ (.inl rfl))
  rw [List.append_nil] at hl
  rw [climb_eq, list, hl]

theorem climb_cases (pf : Profile) (ts : List Token) :
    (∃ e, list pf (ts.length + 1) ts = .ok e [] ∧ climb pf ts = .ok e []) ∨
    (∃ k c r, climb pf ts = .err k c r) ∨
    (∃ s, list pf (ts.length + 1) ts = .panic s ∧ climb pf ts = .panic s) := by
  rw [climb_eq]
  cases hl : list pf (ts.length + 1) ts with
  | ok a r1 =>
    cases r1 with
    | nil => exact .inl ⟨a, rfl, rfl⟩
    | cons t r' =>
      obtain ⟨c, r3, hb⟩ := listLevel_end pf hl
      exact .inr (.inl ⟨_, _, _, by simp only [context, list, hb]; rfl⟩)
  | err k c r => exact .inr (.inl ⟨_, _, _, by simp only [context, hl]; rfl⟩)
  | panic s => exact .inr (.inr ⟨s, rfl, by simp [context, hl]⟩)

theorem climb_sound (pf : Profile) {ts e r} (h : climb pf ts = .ok e r) : r = [] ∧ GList ts e := by
  rcases climb_cases pf ts with ⟨e', hl, h'⟩ | ⟨k, c, r', h'⟩ | ⟨s, _, h'⟩ <;> rw [h'] at h <;> cases h
  obtain ⟨pre, hpre, hg⟩ := sound_listLevel pf (sound_atom pf _) ts e [] hl
  rw [List.append_nil] at hpre
  exact ⟨rfl, hpre ▸ hg⟩

end FV

import FindVerif.Proofs.ParseTotal
/- Debug and release builds of `parse` agree on every input.  The profile reaches the lexer only as
   the guard of its loops, in five places: the comma lists of `-type` and `-perm`, the three loops of
   the format string, the token loop of `lex` and the leading options; and the climber as the guard of
   its three (`climb_profile`).  The body of each consumes, so its guard never fires. -/
namespace FV
open W

theorem parseFileTypes_profile : parseFileTypes .debug = parseFileTypes .release :=
  separated1_profile (safe_lit _).consumes

theorem permArg_profile : permArg .debug = permArg .release := by
  unfold permArg parsePermCheck parsePermission
  rw [separated1_profile (p := parsePartial) (safe_lit (cl!",")).consumes]

theorem formatArg_profile : formatArg .debug = formatArg .release := by
  unfold formatArg parseFormat
  rw [repeatTill0_profile safe_any.consumes, repeat0_profile safe_any.consumes]
  -- what is left is the profile of the outer loop, whose body consumes
  have hbody := ((safe_any.repeatTill0 .release safe_parseElement).map litThen).consumes
  simp only [repeatFold_stable .debug .release hbody (Nat.lt_succ_self _) (Nat.lt_succ_self _)]

theorem token_profile : token .debug = token .release := by
  unfold token parseTest testAlts parseAction actionAlts
  rw [permArg_profile, parseFileTypes_profile, formatArg_profile]

theorem lex_profile : lex .debug = lex .release := by
  unfold lex
  rw [repeatTill1_profile ((safe_token .debug).terminated safe_multispace0).consumes, token_profile]

theorem leadingGlobals_profile : leadingGlobals .debug = leadingGlobals .release := by
  unfold leadingGlobals
  rw [repeat0_profile (safe_parseGlobal.terminated safe_multispace0).consumes]

theorem parse_profile (s : Text) : parse .debug s = parse .release s := by
  simp only [parse_eq, leadingGlobals_profile, lex_profile, climb_profile]

end FV

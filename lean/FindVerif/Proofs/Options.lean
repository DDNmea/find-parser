import FindVerif.Proofs.ParseTotal
/- `_parse`'s two-phase option handling computes the spec's single definition of
   "options of the sequence" / "expression of the sequence": the loop over the leading options
   stops in front of a token that is not an option, so the leading run the spec drops is exactly
   what that loop has read. -/
namespace FV
open W Spec

theorem dropWhile_globals (gs : List GlobalOption) (ts : List Token) :
    (gs.map Token.global ++ ts).dropWhile isGlobalTok = ts.dropWhile isGlobalTok := by
  induction gs with
  | nil => rfl
  | cons g gs ih =>
    simp only [List.map_cons, List.cons_append, List.dropWhile_cons, isGlobalTok, if_true]
    exact ih

theorem expressionOf_plain (gs : List GlobalOption) {ts : List Token} (hne : ts ≠ [])
    (h : ∀ t ∈ ts, isGlobalTok t = false) : expressionOf (gs.map Token.global ++ ts) = ts := by
  obtain ⟨t, ts', rfl⟩ := List.exists_cons_of_ne_nil hne
  simp only [expressionOf, dropWhile_globals, List.dropWhile_cons, h t (List.mem_cons_self ..), Bool.false_eq_true,
    if_false]
  exact (List.map_congr_left fun t' ht' => by simp only [h t' ht', Bool.false_eq_true, if_false, id]).trans (List.map_id _)

theorem optionsOf_plain (l : List Token) {ts : List Token} (h : ∀ t ∈ ts, isGlobalTok t = false) :
    optionsOf (l ++ ts) = optionsOf l := by
  simp only [optionsOf, List.foldl_append]
  generalize l.foldl _ _ = o
  induction ts generalizing o with
  | nil => rfl
  | cons t ts ih =>
    cases t with
    | global g => exact nomatch h _ (List.mem_cons_self ..)
    | _ => exact ih (fun t' ht' => h t' (List.mem_cons_of_mem _ ht')) _

theorem map_untrue_eq (ts : List Token) :
    ts.map untrue = ts.map fun t => if isGlobalTok t then Token.test .true_ else t := rfl

theorem leadingGlobals_exit {pf : Profile} {s : Text} {gs : List GlobalOption} {rest : Text}
    (h : leadingGlobals pf s = .ok gs rest) : rest.dropWhile isBlank = rest ∧ Bt parseGlobal rest := by
  rw [leadingGlobals, preceded_ms0, repeat0] at h
  obtain ⟨l, h, _⟩ := map_ok.1 h
  obtain ⟨hd, hbt⟩ := repeatFold_inv (p := terminated parseGlobal multispace0) (fun _ j => j.dropWhile isBlank = j) pf
    (fun _ _ _ _ _ hj => by obtain ⟨r₁, _, rfl⟩ := terminated_ms0_ok.1 hj; exact dropWhile_idem r₁)
    h (dropWhile_idem s)
  exact ⟨hd, terminated_ms0_bt.1 hbt⟩

theorem lex_head_not_global {pf : Profile} {rest r' : Text} {ts : List Token}
    (hd : rest.dropWhile isBlank = rest) (hg : Bt parseGlobal rest) (h : lex pf rest = .ok ts r') :
    ∃ t0 more, ts = t0 :: more ∧ isGlobalTok t0 = false := by
  rw [lex_eq, hd, map_ok] at h
  obtain ⟨⟨xs, b⟩, h, rfl⟩ := h
  obtain ⟨t0, r3, ht, h⟩ := repeatTill1_ok.1 h
  obtain ⟨ys, hys⟩ := repeatTillLoop_acc pf _ _ _ _ _ _ h
  obtain ⟨r₁, htok, _⟩ := terminated_ms0_ok.1 ht
  exact ⟨t0, ys, by simpa using hys, (token_global_iff htok).2 hg⟩

theorem expressionOf_lexed {pf : Profile} {s rest r' : Text} {gs : List GlobalOption} {ts : List Token}
    (h1 : leadingGlobals pf s = .ok gs rest) (h : lex pf rest = .ok ts r') :
    expressionOf (gs.map Token.global ++ ts) = ts.map untrue := by
  obtain ⟨hd, hg⟩ := leadingGlobals_exit h1
  obtain ⟨t0, more, rfl, ht0⟩ := lex_head_not_global hd hg h
  simp only [expressionOf, dropWhile_globals, List.dropWhile_cons, ht0, Bool.false_eq_true, if_false]
  rfl

end FV

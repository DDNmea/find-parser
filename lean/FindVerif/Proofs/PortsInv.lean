import FindVerif.Proofs.Grows
import FindVerif.Proofs.CompileRun
/- In plain mode every printer is built over a port and THE mutex created with that port
   (one mutex per port: the mutex index is the port index + 1: `PortsInv`).  In framed mode nothing but the
   fixed frame procedure writes: every other binding is a printer that calls it, or a matcher (`DistShape`).
   In either mode the clean-up forms close the file ports (`FiniOk`). -/
namespace FV

structure PortsInv (m : Manager) : Prop where
  defOk : ∀ p, m.defaultPort = some p → p.mutex = p.port + 1
  fileOk : ∀ f p, (f, p) ∈ m.files → p.mutex = p.port + 1
  printerOk : ∀ i prt mtx t, Binding.printerL i prt mtx t ∈ m.vars → mtx = prt + 1

theorem PortsInv.localInit : PortsInv Manager.localInit :=
  ⟨by simp [Manager.localInit], by simp [Manager.localInit], by simp [Manager.localInit]⟩

theorem PortsInv.distInit : PortsInv Manager.distInit :=
  ⟨by simp [Manager.distInit], by simp [Manager.distInit], by simp [Manager.distInit]⟩

theorem PortsInv.hasPort {m : Manager} (h : PortsInv m) {p : OpenPort} (hp : m.HasPort p) : p.mutex = p.port + 1 :=
  hp.elim (h.defOk p) fun ⟨f, hf⟩ => h.fileOk f p hf

theorem PortsInv.keeps : Grows.Keeps PortsInv := by
  intro m m' g h
  have others : ∀ e : List Binding, (∀ i prt mtx t, Binding.printerL i prt mtx t ∉ e) →
      ∀ i prt mtx t, Binding.printerL i prt mtx t ∈ m.vars ++ e → mtx = prt + 1 :=
    fun e he i prt mtx t hb => (List.mem_append.mp hb).elim (h.printerOk i prt mtx t) fun hb => absurd hb (he i prt mtx t)
  cases g with
  | matcher pat ci _ | printerD t _ _ => exact ⟨h.defOk, h.fileOk, others _ (by simp)⟩
  | defaultPort _ _ => exact ⟨fun p hp => by cases hp; rfl, h.fileOk, others _ (by simp)⟩
  | filePort f _ _ =>
    refine ⟨h.defOk, fun f' p hp => ?_, others _ (by simp)⟩
    rcases List.mem_append.mp hp with hp | hp
    · exact h.fileOk f' p hp
    · simp at hp; rw [hp.2]
  | printerL p t _ hp _ =>
    refine ⟨h.defOk, h.fileOk, fun i prt mtx t' hb => ?_⟩
    rcases List.mem_append.mp hb with hb | hb
    · exact h.printerOk i prt mtx t' hb
    · simp at hb
      obtain ⟨_, rfl, rfl, _⟩ := hb
      exact h.hasPort hp

def FiniOk (m : Manager) : Prop := ∃ is : List Nat, m.fini = is.map closePortT

theorem FiniOk.keeps : Grows.Keeps FiniOk := by
  rintro m m' g ⟨is, h⟩
  cases g with
  | filePort f _ _ => exact ⟨is ++ [m.varIndex], by simp [h]⟩
  | matcher | defaultPort | printerL | printerD => exact ⟨is, h⟩

theorem FiniOk.initial (e : Expr) : FiniOk (initialManager e) :=
  initialManager_cases ⟨[], rfl⟩ ⟨[], rfl⟩ e

def Binding.framedOk : Binding → Prop
  | .stdoutPort i => i = 0
  | .mutex i => i = 1
  | .frame => True
  | .printerD _ => True
  | .matcher _ _ _ => True
  | .filePort _ _ => False
  | .printerL _ _ _ _ => False

structure DistShape (m : Manager) : Prop where
  dist : m.distributed = true
  shape : ∀ b ∈ m.vars, b.framedOk

theorem DistShape.distInit : DistShape Manager.distInit :=
  ⟨rfl, by intro b hb; simp [Manager.distInit] at hb; rcases hb with rfl | rfl | rfl <;> simp [Binding.framedOk]⟩

theorem DistShape.keeps : Grows.Keeps DistShape := by
  intro m m' g h
  have snoc : ∀ b : Binding, b.framedOk → ∀ c ∈ m.vars ++ [b], c.framedOk := fun b hb c hc =>
    (List.mem_append.mp hc).elim (h.shape c) fun hc => by simp at hc; exact hc ▸ hb
  cases g with
  | matcher pat ci _ | printerD t _ _ => exact ⟨h.dist, snoc _ trivial⟩
  | defaultPort hd _ => exact absurd h.dist (by simp [hd])
  | filePort f hd _ => exact absurd h.dist (by simp [hd])
  | printerL p t hd _ _ => exact absurd h.dist (by simp [hd])

end FV

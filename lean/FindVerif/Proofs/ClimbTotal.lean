import FindVerif.Proofs.ClimbTop
/- The climber never panics (fuel, loop guards, `unreachable!`, `unwrap`) and does not depend on
   the build profile. -/
namespace FV
open W Spec

theorem noPanicOn_foldLevel {sub body : P Token Expr} {mk} {k} (pf : Profile)
    (hs : NoPanicOn k sub) (hsn : NonInc sub) (hb : NoPanicOn k body) (hbc : Consumes body) :
    NoPanicOn k (foldLevel pf sub body mk) := by
  intro i hi s h
  cases h1 : sub i with
  | ok init r =>
    rw [foldLevel_first h1] at h
    have := hsn i init r h1
    exact repeatFold_noPanic pf hb hbc _ _ _ (by omega) (by omega) s h
  | err kk c r' => rw [foldLevel_err h1] at h; cases h
  | panic s' => exact hs i hi s' h1

theorem noPanicOn_kwThen {t : Token} {c : Ctx} {p : P Token Expr} {k} (h : NoPanicOn k p) :
    NoPanicOn k (kwThen t c p) := by
  intro i hi s hp
  obtain ⟨r₀, rfl, hp'⟩ := kwThen_panic.1 hp
  exact h r₀ (Nat.le_of_succ_le hi) s hp'

section levels
variable {a : P Token Expr} (pf : Profile) {k : Nat} (ha : Sound a GAtom) (h : NoPanicOn k a)
include ha h

theorem noPanicOn_andLevel : NoPanicOn k (andLevel pf a) :=
  noPanicOn_foldLevel pf h ha.nonInc (noPanicOn_alt2 (noPanicOn_kwThen h) h) (consumes_andBody ha)

theorem noPanicOn_orLevel : NoPanicOn k (orLevel pf a) :=
  noPanicOn_foldLevel pf (noPanicOn_andLevel pf ha h) (sound_andLevel pf ha).nonInc
    (noPanicOn_kwThen (noPanicOn_andLevel pf ha h)) (consumes_orBody pf ha)

theorem noPanicOn_listLevel : NoPanicOn k (listLevel pf a) :=
  noPanicOn_foldLevel pf (noPanicOn_orLevel pf ha h) (sound_orLevel pf ha).nonInc
    (noPanicOn_kwThen (noPanicOn_orLevel pf ha h)) (consumes_listBody pf ha)

end levels

/-- With nesting fuel `n + 1`, `atom` does not panic on inputs of length ≤ `n`: every recursive
    call comes after a token has been consumed. -/
theorem noPanicOn_atom (pf : Profile) (n : Nat) : NoPanicOn n (atom pf (n + 1)) := by
  induction n with
  | zero =>
    intro i hi s h
    cases List.eq_nil_of_length_eq_zero (Nat.le_zero.1 hi)
    cases h
  | succ n ih =>
    intro i hi s h
    cases i with
    | nil => cases h
    | cons t r₀ =>
      have hr : r₀.length ≤ n := by simpa using hi
      rcases t.kind with ⟨e, he⟩ | rfl | rfl | hs
      · cases (atom_prim he).symm.trans h
      · obtain ⟨_, hi', h'⟩ := notP_panic.1 (atom_not.symm.trans h)
        cases hi'
        exact ih _ hr s h'
      · obtain ⟨_, hi', h'⟩ := parensP_panic.1 (atom_lparen.symm.trans h)
        cases hi'
        exact noPanicOn_listLevel pf (sound_atom pf _) ih _ hr s h'
      · exact absurd h (atom_stop hs).ne_panic

theorem climb_noPanic (pf : Profile) (ts : List Token) (s : Text) : climb pf ts ≠ .panic s := by
  intro h
  rcases climb_cases pf ts with ⟨e, _, h'⟩ | ⟨k, c, r, h'⟩ | ⟨s', hl, _⟩
  · cases h'.symm.trans h
  · cases h'.symm.trans h
  · exact noPanicOn_listLevel pf (sound_atom pf _) (noPanicOn_atom pf _) ts (Nat.le_refl _) s' hl

theorem foldLevel_profile {sub body : P Token Expr} {mk} (hc : Consumes body) :
    foldLevel .debug sub body mk = foldLevel .release sub body mk := by
  funext i
  simp only [foldLevel]
  cases sub i with
  | ok init r => exact repeatFold_stable .debug .release hc (by omega) (by omega)
  | err k c r => rfl
  | panic s => rfl

theorem listLevel_profile {a : P Token Expr} (ha : Sound a GAtom) : listLevel .debug a = listLevel .release a := by
  have hand : andLevel .debug a = andLevel .release a := foldLevel_profile (consumes_andBody ha)
  have hor : orLevel .debug a = orLevel .release a := by
    rw [orLevel, orBody, hand]
    exact foldLevel_profile (consumes_orBody .release ha)
  rw [listLevel, listBody, hor]
  exact foldLevel_profile (consumes_listBody .release ha)

theorem atom_profile : ∀ n, atom .debug n = atom .release n
  | 0 => rfl
  | n + 1 => by
    simp only [atom]
    rw [atom_profile n, listLevel_profile (sound_atom .release n)]

theorem climb_profile (ts : List Token) : climb .debug ts = climb .release ts := by
  rw [climb_eq, climb_eq, list, list, atom_profile, listLevel_profile (sound_atom .release _)]

end FV

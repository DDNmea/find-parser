import FindVerif.Proofs.FormatElem
/- Loop level of the format-string proof: the nested `repeat`/`repeat_till` of
   `Vec::<FormatElement>::parse` computes the one-pass segmentation of the spec.  The inner loop and
   the reference scanner take the same step on the same reading of the head (`tillLoop_cons`,
   `segAux_cons`), the inner loop's accumulator being the scanner's buffer. -/
namespace FV
open W Spec.Printf

theorem segAux_cons (fuel : Nat) (buf : Text) (c : Char) (cs : Text) :
    segAux (fuel + 1) buf (c :: cs) =
      match specHead (c :: cs) with
      | .elem el r => (segAux fuel [] r).map fun tl => flush buf ++ el :: tl
      | .bad => none
      | .plain => segAux fuel (c :: buf) cs := by
  by_cases hp : c = '%'
  · subst hp
    simp only [segAux, if_true, specHead_percent]
    cases directive cs with
    | none => rfl
    | some fr => rfl
  · by_cases hb : c = '\\'
    · subst hb
      simp only [segAux, hp, if_false, if_true, specHead_backslash]
    · rw [specHead_other (c :: cs) (by intro _ h; cases h; exact hp rfl) (by intro _ h; cases h; exact hb rfl)]
      simp only [segAux, hp, hb, if_false]

theorem tillLoop_cons (pf : Profile) (fuel : Nat) (acc : Text) (c : Char) (cs : Text) :
    repeatTillLoop pf any parseElement (fuel + 1) acc (c :: cs) =
      match specHead (c :: cs) with
      | .elem el r => .ok (acc.reverse, el) r
      | .bad => .err true [expected (cl!"invalid_format_specifier")] cs
      | .plain => repeatTillLoop pf any parseElement fuel (c :: acc) cs := by
  simp only [repeatTillLoop, parseElement_eq]
  cases specHead (c :: cs) with
  | elem el r => rfl
  | bad => rfl
  | plain => simp [any]

theorem specHead_rest {i : Text} {el : FormatElement} {r : Text} (h : specHead i = .elem el r) : r.length < i.length := by
  have := parseElement_eq i
  rw [h] at this
  exact safe_parseElement.consumes i el r this

theorem segAux_fuel : ∀ (n : Nat) (j : Text) (a b : Nat) (bf : Text), j.length = n → j.length < a → j.length < b →
    segAux a bf j = segAux b bf j := by
  intro n
  induction n using Nat.strongRecOn with | _ n ih => ?_
  intro j a b bf hn ha hb
  obtain ⟨a, rfl⟩ : ∃ a', a = a' + 1 := ⟨a - 1, by omega⟩
  obtain ⟨b, rfl⟩ : ∃ b', b = b' + 1 := ⟨b - 1, by omega⟩
  cases j with
  | nil => rfl
  | cons e es =>
    simp only [List.length_cons] at hn ha hb
    rw [segAux_cons, segAux_cons]
    cases hs : specHead (e :: es) with
    | elem el r =>
      have := specHead_rest hs
      simp only [List.length_cons] at this
      simp only [ih r.length (by omega) r a b [] rfl (by omega) (by omega)]
    | bad => rfl
    | plain => exact ih es.length (by omega) es a b (e :: bf) rfl (by omega) (by omega)

theorem inner_spec (pf : Profile) : ∀ (i : Text) (fuel fuel' : Nat) (acc : Text), i.length < fuel → i.length < fuel' →
    match repeatTillLoop pf any parseElement fuel acc i with
    | .ok (pre, el) r => segAux fuel' acc i = (segAux (r.length + 1) [] r).map fun tl => flush pre.reverse ++ el :: tl
    | .err true _ _ => segAux fuel' acc i = none
    | .err false _ _ => segAux fuel' acc i = some (flush (i.reverse ++ acc))
    | .panic _ => False := by
  intro i
  induction i with
  | nil =>
    intro fuel fuel' acc hf hf'
    obtain ⟨n, rfl⟩ : ∃ n, fuel = n + 1 := ⟨fuel - 1, by omega⟩
    obtain ⟨m, rfl⟩ : ∃ m, fuel' = m + 1 := ⟨fuel' - 1, by omega⟩
    simp [repeatTillLoop, parseElement_eq, specHead_nil, any, segAux]
  | cons d cs ih =>
    intro fuel fuel' acc hf hf'
    obtain ⟨n, rfl⟩ : ∃ n, fuel = n + 1 := ⟨fuel - 1, by omega⟩
    obtain ⟨m, rfl⟩ : ∃ m, fuel' = m + 1 := ⟨fuel' - 1, by omega⟩
    simp only [List.length_cons] at hf hf'
    rw [tillLoop_cons, segAux_cons]
    cases hs : specHead (d :: cs) with
    | elem el r =>
      have := specHead_rest hs
      simp only [List.length_cons] at this
      simp only [List.reverse_reverse]
      rw [segAux_fuel r.length r m (r.length + 1) [] rfl (by omega) (by omega)]
    | bad => rfl
    | plain =>
      have := ih n m (d :: acc) (by omega) (by omega)
      simpa using this

/-- One iteration of the outer loop: literal-so-far plus element. -/
def fmtBody (pf : Profile) : P Char (List FormatElement) := map litThen (repeatTill0 pf any parseElement)

theorem consumes_fmtBody (pf : Profile) : Consumes (fmtBody pf) :=
  ((safe_any.repeatTill0 pf safe_parseElement).map litThen).consumes

theorem litThen_eq (pre : Text) (el : FormatElement) : litThen (pre, el) = flush pre.reverse ++ [el] := by
  cases pre <;> simp [litThen, flush]

/-- The outer `repeat(0.., body).fold` loop collects the spec's segmentation up to the literal suffix. -/
theorem outer_spec (pf : Profile) : ∀ (n : Nat) (i : Text) (fuel : Nat) (els : List FormatElement),
    i.length = n → i.length < fuel →
    match segAux (i.length + 1) [] i with
    | some tl => ∃ l r, repeatFold pf (fmtBody pf) (fun acc e => acc ++ e) fuel els i = .ok l r ∧
        (if r.isEmpty then l else l ++ [.literal r]) = els ++ tl
    | none => ∃ c r, repeatFold pf (fmtBody pf) (fun acc e => acc ++ e) fuel els i = .err true c r := by
  intro n
  induction n using Nat.strongRecOn with | _ n ih => ?_
  intro i fuel els hn hf
  obtain ⟨k, rfl⟩ : ∃ k, fuel = k + 1 := ⟨fuel - 1, by omega⟩
  have hin := inner_spec pf i (i.length + 1) (i.length + 1) [] (by omega) (by omega)
  have hbody : fmtBody pf i = map litThen (repeatTillLoop pf any parseElement (i.length + 1) []) i := rfl
  cases hl : repeatTillLoop pf any parseElement (i.length + 1) [] i with
  | ok x r =>
    obtain ⟨pre, el⟩ := x
    rw [hl] at hin
    have hb : fmtBody pf i = .ok (litThen (pre, el)) r := by simp only [hbody, map, hl]
    have hr := consumes_fmtBody pf i _ r hb
    rw [hin, repeatFold_step pf k els i _ r hb hr]
    have := ih r.length (by omega) r k (els ++ litThen (pre, el)) rfl (by omega)
    cases hs : segAux (r.length + 1) [] r with
    | none => rw [hs] at this; exact this
    | some tl =>
      rw [hs] at this
      simpa [litThen_eq, List.append_assoc] using this
  | err cut c r =>
    rw [hl] at hin
    have hb : fmtBody pf i = .err cut c r := by simp only [hbody, map, hl]
    cases cut with
    | true => rw [hin]; exact ⟨c, r, by simp only [repeatFold, hb]⟩
    | false =>
      rw [hin, repeatFold_stop pf k els ⟨c, r, hb⟩]
      exact ⟨els, i, rfl, by cases i <;> simp [flush]⟩
  | panic s => rw [hl] at hin; exact hin.elim

end FV

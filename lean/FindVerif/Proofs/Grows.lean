import FindVerif.Model.Manager
import FindVerif.Proofs.Lists
/-
  How a manager changes.  Every operation looks its key up and, on a miss, appends bindings at
  `varIndex`, bumps it and records the key: five such steps (`Grows`).  `get_matcher` takes at most
  one, a printer request at most two.  An invariant is proved against the five steps, once; that it
  survives the operations, and code generation, is then the same argument for every invariant.
-/
namespace FV

theorem assocGet_some {κ ν} [DecidableEq κ] {l : List (κ × ν)} {k : κ} {v : ν}
    (h : assocGet l k = some v) : (k, v) ∈ l := by
  unfold assocGet at h
  split at h
  · next kv hf =>
    cases h
    have hk : kv.1 = k := by simpa using List.find?_some hf
    exact hk ▸ List.mem_of_find?_eq_some hf
  · cases h

theorem assocGet_none {κ ν} [DecidableEq κ] {l : List (κ × ν)} {k : κ}
    (h : assocGet l k = none) : k ∉ l.map Prod.fst := by
  unfold assocGet at h
  split at h
  · cases h
  · next hf =>
    intro hk
    obtain ⟨⟨k', v⟩, hv, rfl⟩ := List.mem_map.mp hk
    simpa using List.find?_eq_none.mp hf _ hv

theorem assocGet_of_mem {κ ν} [DecidableEq κ] {l : List (κ × ν)} {k : κ} {v : ν}
    (hn : (l.map Prod.fst).Nodup) (h : (k, v) ∈ l) : assocGet l k = some v := by
  rw [assocGet, find?_of_mem hn h]

def Manager.HasPort (m : Manager) (p : OpenPort) : Prop := m.defaultPort = some p ∨ ∃ f, (f, p) ∈ m.files

/-- The clean-up form `init_file_port` pushes for the port it opens. -/
def closePortT (i : Nat) : Text := cl!"(close-port " ++ lf3 (cl!"port") i ++ cl!")"

/-- One registration that misses its table.  The right-hand sides are the `none` branches of
    `register_str_match`, `init_default_port`, `init_file_port` and the two `register_printer`s. -/
inductive Grows : Manager → Manager → Prop
  | matcher (m : Manager) (pat : Text) (ci : Bool) : assocGet m.matches_ (pat, ci) = none →
      Grows m { m with vars := m.vars ++ [.matcher m.varIndex pat ci], varIndex := m.varIndex + 2,
                       matches_ := m.matches_ ++ [((pat, ci), m.varIndex + 1)] }
  | defaultPort (m : Manager) : m.distributed = false → m.defaultPort = none →
      Grows m { m with vars := m.vars ++ [ .stdoutPort m.varIndex, .mutex (m.varIndex + 1) ],
                       defaultPort := some { port := m.varIndex, mutex := m.varIndex + 1 }, varIndex := m.varIndex + 2 }
  | filePort (m : Manager) (f : Text) : m.distributed = false → assocGet m.files f = none →
      Grows m { m with vars := m.vars ++ [ .filePort m.varIndex f, .mutex (m.varIndex + 1) ],
                       fini := m.fini ++ [closePortT m.varIndex],
                       files := m.files ++ [(f, { port := m.varIndex, mutex := m.varIndex + 1 })], varIndex := m.varIndex + 2 }
  | printerL (m : Manager) (p : OpenPort) (t : Option Char) : m.distributed = false → m.HasPort p →
      assocGet m.printersL (p, t) = none →
      Grows m { m with vars := m.vars ++ [.printerL m.varIndex p.port p.mutex t],
                       printersL := m.printersL ++ [((p, t), m.varIndex)], varIndex := m.varIndex + 1 }
  | printerD (m : Manager) (t : Target) : m.distributed = true → assocGet m.printersD t = none →
      Grows m { m with vars := m.vars ++ [.printerD m.varIndex], printersD := m.printersD ++ [(t, m.varIndex)],
                       varIndex := m.varIndex + 1 }

/-- A printer request, by destination-table entry. -/
def Manager.request (m : Manager) : Target → Text × Manager
  | .stdout term => m.getPrinter term
  | .file f term => m.getFilePrinter f term

def Target.of : Option Text → Option Char → Target
  | none, term => .stdout term
  | some f, term => .file f term

theorem registerMatch_hit (m : Manager) (pat : Text) (ci : Bool) (j : Nat)
    (h : assocGet m.matches_ (pat, ci) = some j) : m.registerMatch pat ci = (j, m) := by
  simp [Manager.registerMatch, h]

theorem registerMatch_mem (m : Manager) (pat : Text) (ci : Bool) :
    ((pat, ci), (m.registerMatch pat ci).1) ∈ (m.registerMatch pat ci).2.matches_ := by
  unfold Manager.registerMatch
  split
  · exact assocGet_some ‹_›
  · simp

theorem registerPrinterL_mem (m : Manager) (p : OpenPort) (t : Option Char) :
    ((p, t), (m.registerPrinterL p t).1) ∈ (m.registerPrinterL p t).2.printersL := by
  unfold Manager.registerPrinterL
  split
  · exact assocGet_some ‹_›
  · simp

theorem registerPrinterD_mem (m : Manager) (t : Target) :
    (t, (m.registerPrinterD t).1) ∈ (m.registerPrinterD t).2.printersD := by
  unfold Manager.registerPrinterD
  split
  · exact assocGet_some ‹_›
  · simp

theorem request_dist (m : Manager) (tg : Target) (hd : m.distributed = true) :
    m.request tg = (lf3 (cl!"print") (m.registerPrinterD tg).1, (m.registerPrinterD tg).2) := by
  cases tg <;> simp only [Manager.request, Manager.getPrinter, Manager.getFilePrinter, hd, if_true]

theorem request_stdout_plain (m : Manager) (term : Option Char) (hd : m.distributed = false) :
    m.request (.stdout term) = (lf3 (cl!"print") (m.initDefaultPort.2.registerPrinterL m.initDefaultPort.1 term).1,
      (m.initDefaultPort.2.registerPrinterL m.initDefaultPort.1 term).2) := by
  simp only [Manager.request, Manager.getPrinter, hd, Bool.false_eq_true, if_false]

theorem request_file_plain (m : Manager) (f : Text) (term : Option Char) (hd : m.distributed = false) :
    m.request (.file f term) = (lf3 (cl!"print") ((m.initFilePort f).2.registerPrinterL (m.initFilePort f).1 term).1,
      ((m.initFilePort f).2.registerPrinterL (m.initFilePort f).1 term).2) := by
  simp only [Manager.request, Manager.getFilePrinter, hd, Bool.false_eq_true, if_false]

theorem printerMap_of_dist {m : Manager} (hd : m.distributed = true) :
    m.printerMap = some (m.printersD.map fun kv => (kv.2, kv.1)) := by
  rw [Manager.printerMap, if_pos hd]

theorem printerMap_isSome (m : Manager) : m.printerMap.isSome = m.distributed := by
  unfold Manager.printerMap
  cases m.distributed <;> rfl

theorem mem_printerMap {m : Manager} (hd : m.distributed = true) {i : Nat} {t : Target} :
    (i, t) ∈ m.printerMap.getD [] ↔ (t, i) ∈ m.printersD := by
  rw [printerMap_of_dist hd, Option.getD_some, List.mem_map]
  exact ⟨fun ⟨kv, hkv, he⟩ => by cases he; exact hkv, fun h => ⟨(t, i), h, rfl⟩⟩

theorem printerMap_tags (m : Manager) : (m.printersD.map fun kv => (kv.2, kv.1)).map Prod.fst = m.printersD.map Prod.snd := by
  rw [List.map_map]
  rfl

theorem printerMap_targets (m : Manager) : (m.printersD.map fun kv => (kv.2, kv.1)).map Prod.snd = m.printersD.map Prod.fst := by
  rw [List.map_map]
  rfl

def Grows.Keeps (P : Manager → Prop) : Prop := ∀ m m', Grows m m' → P m → P m'

section
variable {P : Manager → Prop} (hP : Grows.Keeps P)
include hP

theorem getMatcher_keeps (m : Manager) (pat : Text) (ci : Bool) (h : P m) : P (m.getMatcher pat ci).2 := by
  show P (m.registerMatch pat ci).2
  unfold Manager.registerMatch
  split
  · exact h
  · exact hP _ _ (.matcher m pat ci ‹_›) h

theorem registerPrinterD_keeps (m : Manager) (t : Target) (hd : m.distributed = true) (h : P m) :
    P (m.registerPrinterD t).2 := by
  unfold Manager.registerPrinterD
  split
  · exact h
  · exact hP _ _ (.printerD m t hd ‹_›) h

theorem registerPrinterL_keeps (m : Manager) (p : OpenPort) (t : Option Char) (hd : m.distributed = false)
    (hp : m.HasPort p) (h : P m) : P (m.registerPrinterL p t).2 := by
  unfold Manager.registerPrinterL
  split
  · exact h
  · exact hP _ _ (.printerL m p t hd hp ‹_›) h

theorem initDefaultPort_keeps (m : Manager) (hd : m.distributed = false) (h : P m) :
    m.initDefaultPort.2.distributed = false ∧ m.initDefaultPort.2.defaultPort = some m.initDefaultPort.1 ∧
      P m.initDefaultPort.2 := by
  unfold Manager.initDefaultPort
  split
  · exact ⟨hd, ‹_›, h⟩
  · exact ⟨hd, rfl, hP _ _ (.defaultPort m hd ‹_›) h⟩

theorem initFilePort_keeps (m : Manager) (f : Text) (hd : m.distributed = false) (h : P m) :
    (m.initFilePort f).2.distributed = false ∧ (f, (m.initFilePort f).1) ∈ (m.initFilePort f).2.files ∧
      P (m.initFilePort f).2 := by
  unfold Manager.initFilePort
  split
  · exact ⟨hd, assocGet_some ‹_›, h⟩
  · exact ⟨hd, by simp, hP _ _ (.filePort m f hd ‹_›) h⟩

theorem request_keeps (m : Manager) (tg : Target) (h : P m) : P (m.request tg).2 := by
  cases hd : m.distributed with
  | true =>
    rw [request_dist m tg hd]
    exact registerPrinterD_keeps hP m tg hd h
  | false =>
    cases tg with
    | stdout term =>
      rw [request_stdout_plain m term hd]
      obtain ⟨h1, h2, h3⟩ := initDefaultPort_keeps hP m hd h
      exact registerPrinterL_keeps hP _ _ term h1 (.inl h2) h3
    | file f term =>
      rw [request_file_plain m f term hd]
      obtain ⟨h1, h2, h3⟩ := initFilePort_keeps hP m f hd h
      exact registerPrinterL_keeps hP _ _ term h1 (.inr ⟨f, h2⟩) h3

end

theorem request_name (m : Manager) (tg : Target) : ∃ i, (m.request tg).1 = lf3 (cl!"print") i := by
  cases tg <;> simp only [Manager.request]
  · unfold Manager.getPrinter; split <;> exact ⟨_, rfl⟩
  · unfold Manager.getFilePrinter; split <;> exact ⟨_, rfl⟩

end FV

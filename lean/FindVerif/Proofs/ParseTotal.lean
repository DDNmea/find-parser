import FindVerif.Proofs.LexToken
import FindVerif.Proofs.ClimbTotal
import FindVerif.Proofs.Sweep
/- `parse` as a pipeline of three stages (`parse_eq`; `parse_of_ok` reads a result back into the three
   successes), none of which panics. -/
namespace FV
open W

/-- The two unsupported options are refused by their argument reader, so whatever the option reader
    returns is honourable. -/
theorem parseGlobal_honoured {i g r} (h : parseGlobal i = .ok g r) : g.honoured := by
  have unsupported : ∀ j (a : Nat) r, unsupportedOptionArg j ≠ .ok a r := fun j a r h => by
    obtain ⟨_, _, e⟩ := tryMap_ok.1 (context_ok.1 h)
    cases e
  rcases alt2_cases (context_ok.1 h) with h | h
  · obtain ⟨_, _, rfl⟩ := map_ok.1 h; trivial
  rcases alt2_cases h with h | h
  · obtain ⟨_, _, h, _⟩ := unary_ok_arg h; exact absurd h (unsupported _ _ _)
  rcases alt2_cases h with h | h
  · obtain ⟨_, _, h, _⟩ := unary_ok_arg h; exact absurd h (unsupported _ _ _)
  · obtain ⟨_, _, _, rfl⟩ := unary_ok_arg h; trivial

theorem token_global_inv (pf : Profile) (i : Text) (g : GlobalOption) (r : Text)
    (h : token pf i = .ok (.global g) r) : parseGlobal i = .ok g r := by
  -- every other alternative wraps its result in another constructor
  have other : ∀ {α} {f : α → Token} {p : P Char α}, (∀ a, f a ≠ .global g) →
      map f p i = .ok (.global g) r → parseGlobal i = .ok g r :=
    fun hf h => let ⟨a, _, e⟩ := map_ok.1 h; absurd e.symm (hf a)
  refine alt_induct (C := fun q : P Char Token => q i = .ok (Token.global g) r → parseGlobal i = .ok g r) nofun
    (fun hp hq h => (alt2_cases h).elim hp hq) ?_ (context_ok.1 h)
  -- the eleven alternatives, in the order of `token`
  simp only [List.forall_mem_cons]
  exact ⟨other nofun, other nofun, other nofun, other nofun, other nofun, other nofun, other nofun, other nofun,
    fun h => by obtain ⟨_, h, e⟩ := map_ok.1 h; cases e; exact h,
    other nofun, (fun h => nomatch context_ok.1 h), nofun⟩

theorem token_global_iff {pf : Profile} {i r : Text} {t : Token} (h : token pf i = .ok t r) :
    Spec.isGlobalTok t = false ↔ Bt parseGlobal i := by
  constructor
  · intro hg
    cases hany : globalKws.any (isPrefix · i) with
    | false => exact parseGlobal_bt i fun kw hkw => by simpa using List.any_eq_false.mp hany kw hkw
    | true =>
      obtain ⟨kw, hkw, hp⟩ := List.any_eq_true.mp hany
      rw [isPrefix_eq_append hp] at h ⊢
      -- behind an option keyword the option reader stands first: had it not backtracked, the token
      -- would be its option (or its error)
      rcases Bt.em parseGlobal (kw ++ i.drop kw.length) with hb | hb
      · exact hb
      · rw [token_at_global pf kw hkw, context_ok, alt_cons_of_not_bt (by rwa [map_bt]), map_ok] at h
        obtain ⟨g, _, rfl⟩ := h
        cases hg
  · intro hb
    cases t with
    | global g => exact absurd (token_global_inv pf _ _ _ h) hb.ne_ok
    | _ => rfl

theorem token_honoured (pf : Profile) {i t r} (h : token pf i = .ok t r) : t.globalsHonoured := by
  cases t with
  | global g => exact parseGlobal_honoured (token_global_inv pf _ _ _ h)
  | _ => trivial

theorem lex_honoured (pf : Profile) {i ts r} (h : lex pf i = .ok ts r) : ∀ t ∈ ts, t.globalsHonoured := by
  obtain ⟨x, h2, rfl⟩ := map_ok.1 (lex_eq pf i ▸ h)
  refine repeatTill1_forall (fun _ _ _ ht => ?_) h2
  obtain ⟨_, _, ht, _⟩ := terminated_ok.1 ht
  exact token_honoured pf ht

theorem leadingGlobals_honoured (pf : Profile) {i gs r} (h : leadingGlobals pf i = .ok gs r) : ∀ g ∈ gs, g.honoured := by
  obtain ⟨_, _, _, h1⟩ := preceded_ok.1 h
  refine repeat0_forall (fun _ _ _ hg => ?_) h1
  obtain ⟨_, _, hg, _⟩ := terminated_ok.1 hg
  exact parseGlobal_honoured hg

/-- The two `unreachable!()` of `lib.rs` (an option `update` refuses) are dead: `updateAll` and
    `sweepGlobals` only ever see what `parseGlobal` produced. -/
theorem parse_eq (pf : Profile) (s : Text) : parse pf s =
    match leadingGlobals pf s with
    | .panic x => .panic x
    | .err _ c r => .error (dispatch c r)
    | .ok gs rest =>
      match (if rest.isEmpty then .ok [Token.test Test.true_] [] else lex pf rest : Res Char (List Token)) with
      | .panic x => .panic x
      | .err _ c r' => .error (dispatch c r')
      | .ok ts r' =>
        match climb pf (ts.map untrue) with
        | .panic x => .panic x
        | .err _ c _ => .error (dispatch c r')
        | .ok e _ => .ok (Spec.optionsOf (gs.map Token.global ++ ts)) e := by
  -- `unfold`, not `simp only [parse]`: the equation lemma of this nested match takes seconds to generate
  unfold parse
  cases h1 : leadingGlobals pf s with
  | ok gs rest =>
    simp only [updateAll_spec gs {} (leadingGlobals_honoured pf h1)]
    cases hl : (if rest.isEmpty then .ok [Token.test Test.true_] [] else lex pf rest : Res Char (List Token)) with
    | ok ts r' =>
      have hts : ∀ t ∈ ts, t.globalsHonoured := by
        split at hl
        · cases hl; simp [Token.globalsHonoured]
        · exact lex_honoured pf hl
      simp only [sweepGlobals_spec ts _ hts, optionsOf_eq, List.foldl_append, foldl_optStep_globals]
      rfl
    | _ => rfl
  | _ => rfl

theorem parse_of_ok {pf : Profile} {s : Text} {o : RunOptions} {e : Expr} (h : parse pf s = .ok o e) :
    ∃ gs rest ts r' r, leadingGlobals pf s = .ok gs rest ∧
      (if rest.isEmpty then .ok [Token.test Test.true_] [] else lex pf rest : Res Char (List Token)) = .ok ts r' ∧
      climb pf (ts.map untrue) = .ok e r ∧ o = Spec.optionsOf (gs.map Token.global ++ ts) := by
  rw [parse_eq] at h
  cases h1 : leadingGlobals pf s with
  | ok gs rest =>
    simp only [h1] at h
    cases hl : (if rest.isEmpty then .ok [Token.test Test.true_] [] else lex pf rest : Res Char (List Token)) with
    | ok ts r' =>
      simp only [hl] at h
      cases hc : climb pf (ts.map untrue) with
      | ok e' r =>
        simp only [hc, ParseOut.ok.injEq] at h
        exact ⟨gs, rest, ts, r', r, rfl, hl, h.2 ▸ hc, h.1.symm⟩
      | _ => simp only [hc] at h; cases h
    | _ => simp only [hl] at h; cases h
  | _ => simp only [h1] at h; cases h

theorem parse_noPanic (pf : Profile) (s : Text) (site : Text) : parse pf s ≠ .panic site := by
  rw [parse_eq]
  -- a panic of `parse` is a panic of one of the three stages
  split
  next h => exact absurd h ((safe_leadingGlobals pf).np _ _)
  next => nofun
  next =>
    split
    next h =>
      split at h
      · cases h
      · exact absurd h ((safe_lex pf).np _ _)
    next => nofun
    next =>
      split
      next h => exact absurd h (climb_noPanic pf _ _)
      next => nofun
      next => nofun

end FV

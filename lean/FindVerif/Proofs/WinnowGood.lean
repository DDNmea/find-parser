import FindVerif.Proofs.WinnowRepeat
/-
  Totality of composed parsers: `Safe p s` says that `p` never panics and that a success leaves
  a suffix of the input, a proper one when the flag `s` is set.  One lemma per combinator; the
  flags compose by `||` under sequencing, so that whether a parser consumes is computed from its
  parts.  The loops need a consuming body (`s = true`): that is what keeps winnow's loop guard and
  the model's fuel from ever mattering.
-/
namespace FV
namespace W
variable {ι α β γ : Type}

structure Good (p : P ι α) : Prop where
  np : NoPanic p
  ni : NonInc p

structure Strict (p : P ι α) : Prop where
  good : Good p
  cons : Consumes p

/-- `Good p` is `Safe p false` and `Strict p` is `Safe p true`. -/
structure Safe (p : P ι α) (s : Bool) : Prop where
  np : NoPanic p
  le : ∀ i a r, p i = .ok a r → r.length + s.toNat ≤ i.length

theorem Consumes.nonInc {p : P ι α} (h : Consumes p) : NonInc p := fun i a r hp => Nat.le_of_lt (h i a r hp)

theorem Good.safe {p : P ι α} (h : Good p) : Safe p false := ⟨h.np, h.ni⟩
theorem Strict.safe {p : P ι α} (h : Strict p) : Safe p true := ⟨h.good.np, h.cons⟩

namespace Safe
variable {p : P ι α} {q : P ι β} {s t : Bool}

theorem of {R} (np : NoPanic p) (hs : Sound p R) (h : ∀ pre a, R pre a → s.toNat ≤ pre.length) : Safe p s := by
  refine ⟨np, fun i a r hp => ?_⟩
  obtain ⟨pre, rfl, hr⟩ := hs i a r hp
  have := h _ _ hr
  simp; omega

theorem nonInc (h : Safe p s) : NonInc p := fun i a r hp => Nat.le_of_add_right_le (h.le i a r hp)
theorem consumes (h : Safe p true) : Consumes p := h.le
theorem good (h : Safe p s) : Good p := ⟨h.np, h.nonInc⟩
theorem strict (h : Safe p true) : Strict p := ⟨h.good, h.consumes⟩
theorem weaken (h : Safe p s) : Safe p false := h.good.safe

protected theorem map (f : α → β) (h : Safe p s) : Safe (map f p) s :=
  ⟨noPanic_map f h.np, fun i _ r hm => let ⟨a, hp, _⟩ := map_ok.1 hm; h.le i a r hp⟩

protected theorem value (b : β) (h : Safe p s) : Safe (value b p) s := h.map _

protected theorem context (c : Ctx) (h : Safe p s) : Safe (context c p) s :=
  ⟨fun i t hc => h.np i t (context_panic.1 hc), fun i a r hc => h.le i a r (context_ok.1 hc)⟩

protected theorem cutErr (h : Safe p s) : Safe (cutErr p) s :=
  ⟨fun i t hc => h.np i t (cutErr_panic.1 hc), fun i a r hc => h.le i a r (cutErr_ok.1 hc)⟩

protected theorem tryMap (f : α → Option β) (h : Safe p s) : Safe (tryMap f p) s :=
  ⟨fun i t hm => h.np i t (tryMap_panic.1 hm), fun i _ r hm => let ⟨a, hp, _⟩ := tryMap_ok.1 hm; h.le i a r hp⟩

protected theorem mapOrPanic (site : Text) (f : α → Option β) (h : Safe p s)
    (hf : ∀ i a r, p i = .ok a r → (f a).isSome) : Safe (mapOrPanic site f p) s := by
  refine ⟨fun i t hm => ?_, fun i _ r hm => let ⟨a, hp, _⟩ := mapOrPanic_ok.1 hm; h.le i a r hp⟩
  rcases mapOrPanic_panic.1 hm with hp | ⟨a, r, hp, hnone⟩
  · exact h.np i t hp
  · simpa [hnone] using hf i a r hp

protected theorem pair (hp : Safe p s) (hq : Safe q t) : Safe (pair p q) (s || t) := by
  refine ⟨noPanic_pair hp.np hq.np, fun i ab r h => ?_⟩
  obtain ⟨r1, h1, h2⟩ := pair_ok.1 h
  have := hp.le _ _ _ h1
  have := hq.le _ _ _ h2
  have : (s || t).toNat ≤ s.toNat + t.toNat := by cases s <;> cases t <;> decide
  omega

protected theorem preceded (hp : Safe p s) (hq : Safe q t) : Safe (preceded p q) (s || t) := (hp.pair hq).map _
protected theorem terminated (hp : Safe p s) (hq : Safe q t) : Safe (terminated p q) (s || t) := (hp.pair hq).map _

protected theorem alt2 {p q : P ι α} (hp : Safe p s) (hq : Safe q s) : Safe (alt2 p q) s :=
  ⟨noPanic_alt2 hp.np hq.np, fun i a r h => (alt2_cases h).elim (hp.le i a r) (hq.le i a r)⟩

protected theorem alt {ps : List (P ι α)} (h : ∀ p ∈ ps, Safe p s) : Safe (alt ps) s :=
  alt_induct ⟨noPanic_fail, fun _ _ _ h => nomatch h⟩ Safe.alt2 h

protected theorem andThen {outer : P ι (List ι)} {inner : P ι β} (ho : Safe outer s) (hi : NoPanic inner) :
    Safe (andThen outer inner) s := by
  refine ⟨fun i t h => ?_, fun i _ r h => let ⟨sl, _, h1, _⟩ := andThen_ok.1 h; ho.le i sl r h1⟩
  rcases andThen_panic.1 h with h1 | ⟨slice, _, _, h2⟩
  · exact ho.np i t h1
  · exact hi slice t h2

end Safe

theorem safe_pure (a : α) : Safe (pure a : P ι α) false := .of (fun _ _ h => nomatch h) (sound_pure a) (by simp)
theorem safe_fail {s} : Safe (fail : P ι α) s := ⟨noPanic_fail, fun _ _ _ h => nomatch h⟩
theorem safe_eof : Safe (eof : P ι Unit) false :=
  .of (fun i _ h => by cases i <;> cases h) sound_eof (by simp)

theorem safe_any : Safe (any : P ι ι) true :=
  .of (fun i _ h => by cases i <;> cases h) sound_any (by simp +contextual)

theorem safe_oneOf (f : ι → Bool) : Safe (oneOf f) true := by
  refine .of (fun i _ h => ?_) (sound_oneOf f) (by simp +contextual)
  cases i with
  | nil => cases h
  | cons x xs => simp only [oneOf] at h; split at h <;> cases h

theorem safe_lit (s : Text) : Safe (lit s) (!s.isEmpty) := by
  refine .of (fun i _ h => ?_) (sound_lit s) (by rintro pre _ rfl; cases pre <;> simp)
  unfold lit at h
  split at h <;> cases h

theorem safe_takeWhile (m : Nat) (f : ι → Bool) : Safe (takeWhile m f) (decide (0 < m)) := by
  refine .of (fun i _ h => ?_) (sound_takeWhile m f) (by rintro _ _ ⟨rfl, h, _⟩; cases m <;> simp_all; omega)
  simp only [takeWhile] at h
  split at h <;> cases h

theorem safe_takeWhileMN (m n : Nat) (f : ι → Bool) : Safe (takeWhileMN m n f) (decide (0 < m)) := by
  refine .of (fun i _ h => ?_) (sound_takeWhileMN m n f) (by rintro _ _ ⟨rfl, h, _⟩; cases m <;> simp_all; omega)
  simp only [takeWhileMN] at h
  split at h <;> cases h

theorem safe_takeUntil1 (d : Char) : Safe (takeUntil1 d) true := by
  refine .of (fun i _ h => ?_) (sound_takeUntil1 d) (by rintro _ _ ⟨rfl, h⟩; exact List.length_pos_iff.mpr h)
  simp only [takeUntil1] at h
  split at h
  · cases h
  · split at h <;> cases h

theorem safe_digit1 : Safe digit1 true := safe_takeWhile 1 _
theorem safe_alpha1 : Safe alpha1 true := safe_takeWhile 1 _
theorem safe_multispace1 : Safe multispace1 true := safe_takeWhile 1 _
theorem safe_multispace0 : Safe multispace0 false := safe_takeWhile 0 _

theorem good_pure (a : α) : Good (pure a : P ι α) := (safe_pure a).good

theorem strict_takeWhileMN (m n : Nat) (hm : 0 < m) (p : ι → Bool) : Strict (takeWhileMN m n p) :=
  Safe.strict (by simpa [hm] using safe_takeWhileMN m n p)

theorem safe_repeatFold {p : P ι α} (pf : Profile) (g : β → α → β) (init : β) (h : Safe p true) :
    Safe (fun i => repeatFold pf p g (i.length + 1) init i) false :=
  ⟨fun i => repeatFold_noPanic pf (h.np.on _) h.consumes _ _ i (Nat.le_refl _) (Nat.lt_succ_self _),
   fun i _ _ hr => (repeatFold_inv (fun _ j => j.length ≤ i.length) pf
      (fun _ j a r hj ha => Nat.le_trans (h.nonInc j a r ha) hj) hr (Nat.le_refl _)).1⟩

theorem Safe.repeat0 {p : P ι α} (pf : Profile) (h : Safe p true) : Safe (repeat0 pf p) false :=
  (safe_repeatFold pf _ [] h).map List.reverse

theorem repeatTillLoop_safe {f : P ι α} {g : P ι β} {s} (pf : Profile) (hf : Safe f true) (hg : Safe g s)
    (acc : List α) (i : List ι) :
    (∀ t, repeatTillLoop pf f g (i.length + 1) acc i ≠ .panic t) ∧
    ∀ xb r, repeatTillLoop pf f g (i.length + 1) acc i = .ok xb r → r.length + s.toNat ≤ i.length := by
  refine ⟨repeatTillLoop_noPanic pf (hf.np.on _) (hg.np.on _) hf.consumes _ _ i (Nat.le_refl _) (Nat.lt_succ_self _),
    fun xb r hr => ?_⟩
  obtain ⟨_, j, hj, _, hg1⟩ := repeatTillLoop_inv (fun _ j => j.length ≤ i.length) pf
    (fun _ j a r hj ha => Nat.le_trans (hf.nonInc j a r ha) hj) hr (Nat.le_refl _)
  exact Nat.le_trans (hg.le j _ r hg1) hj

theorem Safe.repeatTill0 {f : P ι α} {g : P ι β} {s} (pf : Profile) (hf : Safe f true) (hg : Safe g s) :
    Safe (repeatTill0 pf f g) s :=
  ⟨fun i => (repeatTillLoop_safe pf hf hg [] i).1, fun i => (repeatTillLoop_safe pf hf hg [] i).2⟩

theorem Safe.repeatTill1 {f : P ι α} {g : P ι β} {s} (pf : Profile) (hf : Safe f true) (hg : Safe g s) :
    Safe (repeatTill1 pf f g) true := by
  constructor
  · intro i t h
    rcases repeatTill1_panic.1 h with h | ⟨a, r1, _, h⟩
    · exact hf.np i t h
    · exact (repeatTillLoop_safe pf hf hg [a] r1).1 t h
  · intro i xb r h
    obtain ⟨a, r1, h1, h⟩ := repeatTill1_ok.1 h
    have := hf.le i a r1 h1
    have := (repeatTillLoop_safe pf hf hg [a] r1).2 xb r h
    omega

theorem strict_repeatTill1 {f : P ι α} {g : P ι β} (pf : Profile) (hf : Strict f) (hg : Good g) :
    Strict (repeatTill1 pf f g) := (Safe.repeatTill1 pf hf.safe hg.safe).strict

theorem Safe.separated1 {p : P ι α} {sep : P ι γ} {s} (pf : Profile) (hp : Safe p s) (hs : Safe sep true) :
    Safe (separated1 pf p sep) s := by
  constructor
  · intro i t h
    rcases separated1_panic.1 h with h | ⟨_, _, _, h⟩
    · exact hp.np i t h
    · exact separatedLoop_noPanic pf hp.np hp.nonInc hs.np hs.consumes _ _ _ (Nat.lt_succ_self _) t h
  · intro i xs r h
    obtain ⟨a, r1, h1, h⟩ := separated1_ok.1 h
    obtain ⟨_, hr, _⟩ := separatedLoop_inv (fun _ j => j.length ≤ r1.length) pf
      (fun _ j x r1 a r2 hj h1 h2 =>
        Nat.le_trans (hp.nonInc r1 a r2 h2) (Nat.le_trans (hs.nonInc j x r1 h1) hj)) h (Nat.le_refl _)
    exact Nat.le_trans (Nat.add_le_add_right hr _) (hp.le i a r1 h1)

end W
end FV

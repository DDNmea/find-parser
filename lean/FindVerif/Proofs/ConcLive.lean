import FindVerif.Proofs.Conc
/- Accounting (nothing lost, nothing duplicated), progress and termination of the machine:
   what holds of every program, well locked or not. -/
namespace FV
namespace Conc

def recOn (p : Nat) (sec : Sec) : Option (List Nat) := if sec.port = p then some (record sec) else none

def pendT (ths : List TState) (p : Nat) : List (List Nat) := (ths.flatMap (·.todo)).filterMap (recOn p)

theorem pending_eq (s : St) (p : Nat) : pending s p = pendT s.threads p := rfl

theorem pendT_split (pre post : List TState) (t : TState) (p : Nat) :
    pendT (pre ++ t :: post) p = pendT pre p ++ (t.todo.filterMap (recOn p) ++ pendT post p) := by
  simp [pendT, List.filterMap_append]

theorem Move.perm {s s' : St} (h : Move s s') (p : Nat) :
    (s'.doneRecs p ++ pending s' p).Perm (s.doneRecs p ++ pending s p) := by
  simp only [pending_eq]
  cases h with
  | lock _ => simp only [pendT_split]; exact .refl _
  | write _ => simp only [pendT_split]; exact .refl _
  | @unlock pre post sec rest log dr k _ =>
    simp only [pendT_split, List.filterMap_cons, recOn]
    by_cases hp : sec.port = p
    · -- the record moves from the head of the thread's pending list to the end of the done list
      simp only [hp, update_same, if_true, List.append_assoc, List.singleton_append]
      exact List.perm_middle.symm.append_left _
    · simp only [hp, update_other _ _ hp, if_false]
      exact .refl _

theorem run_perm (sched : List Nat) (s : St) (p : Nat) :
    ((run sched s).doneRecs p ++ pending (run sched s) p).Perm (s.doneRecs p ++ pending s p) :=
  run_induction (P := fun s' => (s'.doneRecs p ++ pending s' p).Perm (s.doneRecs p ++ pending s p))
    (fun h ih => (h.perm p).trans ih) sched s (.refl _)

theorem pending_nil_of_allDone (s : St) (h : allDone s) (p : Nat) : pending s p = [] := by
  have : s.threads.flatMap (·.todo) = [] := List.flatMap_eq_nil_iff.mpr h
  simp [pending, this]

theorem step_inside {s : St} {i : Nat} {t : TState} {sec : Sec} {rest : List Sec} {k : Nat}
    (hti : s.threads[i]? = some t) (htodo : t.todo = sec :: rest) (hph : t.phase = .inside k) :
    ∃ s', step s i = some s' := by
  simp only [step, hti, htodo, hph]
  cases sec.pieces[k]? <;> exact ⟨_, rfl⟩

/-- The machine never deadlocks: a thread takes one mutex at a time and never waits while holding it. -/
theorem no_deadlock (s : St) (h : ¬ allDone s) : ∃ i s', step s i = some s' := by
  obtain ⟨t, ht, hne⟩ : ∃ t ∈ s.threads, t.todo ≠ [] := by simpa [allDone] using h
  obtain ⟨i, hti⟩ := List.getElem?_of_mem ht
  match htodo : t.todo, hph : t.phase with
  | [], _ => exact absurd htodo hne
  | sec :: rest, .inside k => exact ⟨i, step_inside hti htodo hph⟩
  | sec :: rest, .idle =>
    cases hheld : held s sec.mutex with
    | false => exact ⟨i, _, by simp only [step, hti, htodo, hph, hheld]; rfl⟩
    | true =>
      -- whoever holds the mutex is inside a section, and can move
      obtain ⟨t', ht', hh⟩ := List.any_eq_true.mp hheld
      obtain ⟨j, htj⟩ := List.getElem?_of_mem ht'
      match htodo' : t'.todo, hph' : t'.phase with
      | sec' :: rest', .inside k' => exact ⟨j, step_inside htj htodo' hph'⟩
      | [], _ | _ :: _, .idle => simp [holds, htodo', hph'] at hh

/-- Moves a section takes: one to lock, one per piece, one to unlock. -/
def cost (sec : Sec) : Nat := sec.pieces.length + 2

def remaining (t : TState) : Nat :=
  match t.phase, t.todo with
  | .inside k, sec :: rest => (sec.pieces.length - k) + 1 + (rest.map cost).sum
  | _, todo => (todo.map cost).sum

def total (s : St) : Nat := (s.threads.map remaining).sum

theorem total_split (pre post : List TState) (t : TState) (log : Nat → List Nat) (dr : Nat → List (List Nat)) :
    total { threads := pre ++ t :: post, log := log, doneRecs := dr } =
      (pre.map remaining).sum + (remaining t + (post.map remaining).sum) := by
  simp [total]

theorem Move.total {s s' : St} (h : Move s s') : total s' + 1 = total s := by
  cases h with
  | lock _ => simp only [total_split, remaining, cost, List.map_cons, List.sum_cons]; omega
  | write hp =>
    have := (List.getElem?_eq_some_iff.mp hp).1
    simp only [total_split, remaining]; omega
  | unlock hk => simp only [total_split, remaining]; omega

theorem remaining_eq_zero (t : TState) : remaining t = 0 ↔ t.todo = [] := by
  obtain ⟨todo, ph⟩ := t
  cases todo <;> cases ph <;> simp [remaining, cost]

theorem total_eq_zero (s : St) : total s = 0 ↔ allDone s := by
  simp [total, allDone, List.sum_eq_zero_iff_forall_eq_nat, remaining_eq_zero]

theorem can_finish : ∀ (n : Nat) (s : St), total s = n → ∃ sched, allDone (run sched s)
  | 0, s, h => ⟨[], (total_eq_zero s).mp h⟩
  | n + 1, s, h => by
    obtain ⟨i, s', hs⟩ := no_deadlock s fun hd => by have := (total_eq_zero s).mpr hd; omega
    have := Move.total (.of_step hs)
    obtain ⟨sched, hd⟩ := can_finish n s' (by omega)
    exact ⟨i :: sched, by simpa only [run, hs] using hd⟩

def moves : List Nat → St → Nat
  | [], _ => 0
  | i :: is, s => match step s i with
    | some s' => moves is s' + 1
    | none => moves is s

/-- No schedule makes more moves than the work there is: every execution is finite, and one that
    has made `total` moves is finished. -/
theorem moves_total : ∀ (sched : List Nat) (s : St), moves sched s + total (run sched s) = total s
  | [], s => by simp [moves, run]
  | i :: is, s => by
    simp only [moves, run]
    cases hs : step s i with
    | none => exact moves_total is s
    | some s' =>
      have := moves_total is s'
      have := Move.total (.of_step hs)
      simp only
      omega

end Conc
end FV

import FindVerif.Spec.Conc
/-
  The interleaving machine seen through its three moves (`Move`), one induction over schedules
  (`run_induction`), and the invariant of programs with one mutex per port (`LockInv`).
-/
namespace FV
namespace Conc

@[simp] theorem holds_idle (todo : List Sec) (m : Nat) : holds ⟨todo, .idle⟩ m = false := by
  cases todo <;> rfl

@[simp] theorem holds_inside (sec : Sec) (rest : List Sec) (k m : Nat) :
    holds ⟨sec :: rest, .inside k⟩ m = (sec.mutex == m) := rfl

@[simp] theorem partialOf_idle (todo : List Sec) (p : Nat) : partialOf ⟨todo, .idle⟩ p = [] := by
  cases todo <;> rfl

@[simp] theorem partialOf_inside (sec : Sec) (rest : List Sec) (k p : Nat) :
    partialOf ⟨sec :: rest, .inside k⟩ p = if sec.port = p then (sec.pieces.take k).flatten else [] := rfl

@[simp] theorem update_same {α : Type} (f : Nat → α) (k : Nat) (v : α) : update f k v k = v := by
  simp [update]

theorem update_other {α : Type} (f : Nat → α) {k x : Nat} (v : α) (h : k ≠ x) : update f k v x = f x := by
  simp [update, Ne.symm h]

theorem held_false_iff (s : St) (m : Nat) : held s m = false ↔ ∀ t ∈ s.threads, holds t m = false := by
  simp [held]

/-- One move, with the moving thread singled out: take a mutex nobody holds; write the next piece;
    or, no piece being left, complete the record and release.  `step` makes no other move
    (`Move.of_step`), so what every move preserves is proved by cases on `Move`. -/
inductive Move : St → St → Prop
  | lock {pre post : List TState} {sec : Sec} {rest : List Sec} {log : Nat → List Nat} {dr : Nat → List (List Nat)} :
      (∀ a ∈ pre ++ post, holds a sec.mutex = false) →
      Move ⟨pre ++ ⟨sec :: rest, .idle⟩ :: post, log, dr⟩ ⟨pre ++ ⟨sec :: rest, .inside 0⟩ :: post, log, dr⟩
  | write {pre post : List TState} {sec : Sec} {rest : List Sec} {log : Nat → List Nat} {dr : Nat → List (List Nat)}
      {k : Nat} {piece : List Nat} :
      sec.pieces[k]? = some piece →
      Move ⟨pre ++ ⟨sec :: rest, .inside k⟩ :: post, log, dr⟩
        ⟨pre ++ ⟨sec :: rest, .inside (k + 1)⟩ :: post, update log sec.port (log sec.port ++ piece), dr⟩
  | unlock {pre post : List TState} {sec : Sec} {rest : List Sec} {log : Nat → List Nat} {dr : Nat → List (List Nat)}
      {k : Nat} :
      sec.pieces.length ≤ k →
      Move ⟨pre ++ ⟨sec :: rest, .inside k⟩ :: post, log, dr⟩
        ⟨pre ++ ⟨rest, .idle⟩ :: post, log, update dr sec.port (dr sec.port ++ [record sec])⟩

theorem set_split {α : Type} {l : List α} {i : Nat} {a : α} (h : l[i]? = some a) :
    ∃ pre post, l = pre ++ a :: post ∧ ∀ b, l.set i b = pre ++ b :: post := by
  obtain ⟨hi, rfl⟩ := List.getElem?_eq_some_iff.mp h
  refine ⟨l.take i, l.drop (i + 1), ?_, fun b => by simp [List.set_eq_take_append_cons_drop, hi]⟩
  rw [← List.drop_eq_getElem_cons hi, List.take_append_drop]

theorem Move.of_step {s s' : St} {i : Nat} (h : step s i = some s') : Move s s' := by
  obtain ⟨ths, log, dr⟩ := s
  unfold step at h
  cases hti : ths[i]? with
  | none => simp [hti] at h
  | some t =>
    obtain ⟨pre, post, rfl, hset⟩ := set_split hti
    obtain ⟨todo, ph⟩ := t
    simp only [hti, hset] at h
    match todo, ph with
    | [], _ => simp at h
    | sec :: rest, .idle =>
      simp only at h
      split at h
      · simp at h
      · next hfree =>
        cases h
        refine .lock fun a ha => ?_
        have := (held_false_iff _ _).mp (by simpa using hfree) a
        simp only [List.mem_append, List.mem_cons] at this ha
        exact this (ha.imp_right Or.inr)
    | sec :: rest, .inside k =>
      simp only at h
      split at h
      · next piece hp => cases h; exact .write hp
      · next hp => cases h; exact .unlock (List.getElem?_eq_none_iff.mp hp)

theorem run_induction {P : St → Prop} (hstep : ∀ {s s'}, Move s s' → P s → P s') :
    ∀ (sched : List Nat) (s : St), P s → P (run sched s)
  | [], _, h => h
  | i :: is, s, h => by
    simp only [run]
    cases hs : step s i with
    | none => exact run_induction hstep is s h
    | some s' => exact run_induction hstep is s' (hstep (.of_step hs) h)

/-- For programs with one mutex per port: each port's log is its completed records followed by what
    the threads inside sections on it have written. -/
structure LockInv (mutexOf : Nat → Nat) (s : St) : Prop where
  wl : ∀ t ∈ s.threads, ∀ sec ∈ t.todo, sec.mutex = mutexOf sec.port
  excl : ∀ m, s.threads.countP (holds · m) ≤ 1
  logOk : ∀ p, s.log p = (s.doneRecs p).flatten ++ (s.threads.map (partialOf · p)).flatten

theorem holds_of_partialOf {mutexOf : Nat → Nat} {a : TState} {q : Nat}
    (hwl : ∀ sec ∈ a.todo, sec.mutex = mutexOf sec.port) (h : partialOf a q ≠ []) :
    ∃ sec rest k, a = ⟨sec :: rest, .inside k⟩ ∧ sec.port = q ∧ holds a (mutexOf q) = true := by
  match a with
  | ⟨[], .idle⟩ | ⟨[], .inside _⟩ | ⟨_ :: _, .idle⟩ => simp [partialOf] at h
  | ⟨sec :: rest, .inside k⟩ =>
    have hq : sec.port = q := by
      apply Decidable.byContradiction
      intro hne
      simp [hne] at h
    exact ⟨sec, rest, k, rfl, hq, by simp [← hq, hwl sec (by simp)]⟩

theorem silent {mutexOf : Nat → Nat} {l : List TState} {q : Nat}
    (hwl : ∀ a ∈ l, ∀ sec ∈ a.todo, sec.mutex = mutexOf sec.port)
    (h : l.countP (holds · (mutexOf q)) = 0) : (l.map (partialOf · q)).flatten = [] := by
  rw [List.flatten_eq_nil_iff]
  intro x hx
  obtain ⟨a, ha, rfl⟩ := List.mem_map.mp hx
  apply Decidable.byContradiction
  intro hne
  obtain ⟨_, _, _, _, _, hh⟩ := holds_of_partialOf (hwl a ha) hne
  exact List.countP_eq_zero.mp h a ha hh

/-- Whichever thread stands in `t`'s place: the others hold nothing, so they are outside any section on `q`. -/
theorem partials_holder {mutexOf : Nat → Nat} {pre post : List TState} {t : TState} {q : Nat}
    (hwl : ∀ a ∈ pre ++ t :: post, ∀ sec ∈ a.todo, sec.mutex = mutexOf sec.port)
    (hex : (pre ++ t :: post).countP (holds · (mutexOf q)) ≤ 1) (ht : holds t (mutexOf q) = true) (t' : TState) :
    ((pre ++ t' :: post).map (partialOf · q)).flatten = partialOf t' q := by
  simp only [List.countP_append, List.countP_cons, ht, if_true] at hex
  have e1 := silent (l := pre) (q := q) (fun a ha => hwl a (by simp [ha])) (by omega)
  have e2 := silent (l := post) (q := q) (fun a ha => hwl a (by simp [ha])) (by omega)
  rw [List.map_append, List.map_cons, List.flatten_append, List.flatten_cons, e1, e2, List.nil_append, List.append_nil]

theorem excl_replace {pre post : List TState} {t t' : TState} {m : Nat}
    (h : (pre ++ t :: post).countP (holds · m) ≤ 1)
    (hnew : holds t' m = true → holds t m = true ∨ ∀ a ∈ pre ++ post, holds a m = false) :
    (pre ++ t' :: post).countP (holds · m) ≤ 1 := by
  simp only [List.countP_append, List.countP_cons] at h ⊢
  cases ht' : holds t' m with
  | false => simp only [Bool.false_eq_true, if_false]; omega
  | true =>
    rcases hnew ht' with ht | hfree
    · simpa [ht] using h
    · have h0 : (pre ++ post).countP (holds · m) = 0 :=
        List.countP_eq_zero.mpr fun a ha => by simp [hfree a ha]
      simp only [List.countP_append] at h0
      simp only [if_true]
      omega

theorem init_lockInv (prog : List (List Sec)) (mutexOf : Nat → Nat) (h : WellLocked prog mutexOf) : LockInv mutexOf (init prog) := by
  refine ⟨?_, fun m => ?_, fun p => ?_⟩
  · intro t ht sec hsec
    obtain ⟨secs, hs, rfl⟩ := List.mem_map.mp ht
    exact h secs hs sec hsec
  · have : (init prog).threads.countP (holds · m) = 0 :=
      List.countP_eq_zero.mpr fun a ha => by
        obtain ⟨secs, _, rfl⟩ := List.mem_map.mp ha
        simp
    omega
  · symm
    simp only [init, List.flatten_nil, List.nil_append, List.flatten_eq_nil_iff]
    intro x hx
    obtain ⟨a, ha, rfl⟩ := List.mem_map.mp hx
    obtain ⟨secs, _, rfl⟩ := List.mem_map.mp ha
    simp

theorem Move.lockInv {mutexOf : Nat → Nat} {s s' : St} (h : Move s s') (hinv : LockInv mutexOf s) : LockInv mutexOf s' := by
  obtain ⟨wl, excl, logOk⟩ := hinv
  -- the moving thread's sections stay among those it had, so the new threads are well locked
  have wl' : ∀ {pre post : List TState} {t t' : TState}, (∀ a ∈ pre ++ t :: post, ∀ x ∈ a.todo, x.mutex = mutexOf x.port) →
      (∀ x ∈ t'.todo, x ∈ t.todo) → ∀ a ∈ pre ++ t' :: post, ∀ x ∈ a.todo, x.mutex = mutexOf x.port := by
    intro pre post t t' hw hsub a ha x hx
    simp only [List.mem_append, List.mem_cons] at ha
    rcases ha with ha | rfl | ha
    · exact hw a (by simp [ha]) x hx
    · exact hw t (by simp) x (hsub x hx)
    · exact hw a (by simp [ha]) x hx
  cases h with
  | lock hfree =>
    refine ⟨wl' wl fun x hx => hx, fun m => excl_replace (excl m) fun hm => Or.inr ?_, fun p => ?_⟩
    · rw [holds_inside, beq_iff_eq] at hm
      exact hm ▸ hfree
    · simpa using logOk p
  | @write pre post sec rest log dr k piece hp =>
    refine ⟨wl' wl fun x hx => hx, fun m => excl_replace (excl m) fun hm => Or.inl hm, fun p => ?_⟩
    have hlog := logOk p
    by_cases hport : sec.port = p
    · subst hport
      have hm : sec.mutex = mutexOf sec.port := wl ⟨sec :: rest, .inside k⟩ (by simp) sec (by simp)
      have hold : holds ⟨sec :: rest, .inside k⟩ (mutexOf sec.port) = true := by simp [hm]
      dsimp only at hlog ⊢
      rw [partials_holder wl (excl _) hold] at hlog ⊢
      rw [update_same, hlog, partialOf_inside, partialOf_inside, if_pos rfl, if_pos rfl, List.take_add_one, hp]
      simp
    · simpa [update_other _ _ hport, hport] using hlog
  | @unlock pre post sec rest log dr k hk =>
    refine ⟨wl' wl fun x hx => List.mem_cons_of_mem _ hx, fun m => excl_replace (excl m) fun hm => by simp at hm, fun p => ?_⟩
    have hlog := logOk p
    by_cases hport : sec.port = p
    · subst hport
      have hm : sec.mutex = mutexOf sec.port := wl ⟨sec :: rest, .inside k⟩ (by simp) sec (by simp)
      have hold : holds ⟨sec :: rest, .inside k⟩ (mutexOf sec.port) = true := by simp [hm]
      dsimp only at hlog ⊢
      rw [partials_holder wl (excl _) hold] at hlog ⊢
      -- all pieces are written: the partial record is the record
      rw [update_same, hlog, partialOf_idle, partialOf_inside, if_pos rfl, List.take_of_length_le hk]
      simp [record]
    · simpa [update_other _ _ hport, hport] using hlog

theorem run_lockInv {mutexOf : Nat → Nat} (sched : List Nat) (s : St) (h : LockInv mutexOf s) : LockInv mutexOf (run sched s) :=
  run_induction Move.lockInv sched s h

theorem LockInv.partials {mutexOf : Nat → Nat} {s : St} (hinv : LockInv mutexOf s) (p : Nat) :
    (s.threads.map (partialOf · p)).flatten = [] ∨
    ∃ t ∈ s.threads, ∃ sec rest k, t.todo = sec :: rest ∧ t.phase = .inside k ∧ sec.port = p ∧
      (s.threads.map (partialOf · p)).flatten = (sec.pieces.take k).flatten := by
  by_cases hex : ∃ t ∈ s.threads, partialOf t p ≠ []
  · obtain ⟨t, ht, hne⟩ := hex
    obtain ⟨sec, rest, k, rfl, rfl, hh⟩ := holds_of_partialOf (hinv.wl t ht) hne
    obtain ⟨pre, post, hsplit⟩ := List.append_of_mem ht
    refine Or.inr ⟨_, ht, sec, rest, k, rfl, rfl, rfl, ?_⟩
    rw [hsplit, partials_holder (hsplit ▸ hinv.wl) (hsplit ▸ hinv.excl _) hh, partialOf_inside, if_pos rfl]
  · refine Or.inl (List.flatten_eq_nil_iff.mpr fun x hx => ?_)
    obtain ⟨t, ht, rfl⟩ := List.mem_map.mp hx
    exact Decidable.byContradiction fun hne => hex ⟨t, ht, hne⟩

end Conc
end FV

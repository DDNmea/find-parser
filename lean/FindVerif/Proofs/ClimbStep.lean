import FindVerif.Model.Precedence
import FindVerif.Proofs.WinnowEval
/-
  What each small parser of the climber does on the first token of its input, by the three faces
  of `WinnowBasic`.  Every other fact about `andBody`, `orBody`, `listBody`, `notP`, `parensP` and
  `atom` is read off these.
-/
namespace FV
open W

/-- `preceded(one_of(t), cut_err(p).context(c))`: the OR and list bodies, `not` before its `map`,
    the first branch of the AND body.  They are instances by unfolding only: the lemmas below are
    applied to goals about `orBody` and `listBody` as they stand. -/
def kwThen (t : Token) (c : Ctx) (p : P Token Expr) : P Token Expr :=
  preceded (oneOf (tokIs t)) (context c (cutErr p))

section kwThen
variable {t : Token} {c : Ctx} {p : P Token Expr} {i : List Token}

theorem eq_iff_head_of_bt {x : Res Token Expr} (hp : ∀ {i}, i.head? ≠ some t → Bt p i) (hx : ∀ c r, x ≠ .err false c r) :
    p i = x ↔ ∃ r₀, i = t :: r₀ ∧ p (t :: r₀) = x := by
  refine ⟨fun h => ?_, fun ⟨r₀, hi, h⟩ => hi ▸ h⟩
  by_cases hh : i.head? = some t
  · obtain ⟨r₀, rfl⟩ := List.head?_eq_some_iff.1 hh
    exact ⟨r₀, rfl, h⟩
  · obtain ⟨c, r, hb⟩ := hp hh
    exact absurd (h.symm.trans hb) (hx c r)

theorem kwThen_self (r : List Token) : kwThen t c p (t :: r) = context c (cutErr p) r := by
  simp [kwThen, preceded_oneOf_cons, tokIs]

theorem kwThen_bt : Bt (kwThen t c p) i ↔ i.head? ≠ some t := by
  refine ⟨fun h hh => ?_, fun h => ?_⟩
  · obtain ⟨r₀, rfl⟩ := List.head?_eq_some_iff.1 hh
    rw [Bt, kwThen_self] at h
    exact cutErr_not_bt (context_bt.1 h)
  · cases i with
    | nil => exact ⟨[], [], rfl⟩
    | cons u r =>
      have : u ≠ t := by simpa using h
      exact ⟨[], u :: r, by simp [kwThen, preceded_oneOf_cons, tokIs, this]⟩

theorem kwThen_ok {e r} : kwThen t c p i = .ok e r ↔ ∃ r₀, i = t :: r₀ ∧ p r₀ = .ok e r := by
  simpa only [kwThen_self, context_ok, cutErr_ok] using eq_iff_head_of_bt (x := .ok e r) kwThen_bt.2 (by simp)

theorem kwThen_panic {s} : kwThen t c p i = .panic s ↔ ∃ r₀, i = t :: r₀ ∧ p r₀ = .panic s := by
  simpa only [kwThen_self, context_panic, cutErr_panic] using eq_iff_head_of_bt (x := .panic s) kwThen_bt.2 (by simp)

end kwThen

section parsers
variable {pf : Profile} {n : Nat} {a l : P Token Expr} {i r : List Token} {e : Expr} {s : Text} {t : Token}

theorem andBody_bt : Bt (andBody a) i ↔ i.head? ≠ some .and ∧ Bt a i :=
  alt2_bt.trans (and_congr_left' kwThen_bt)

theorem notP_ok : notP a i = .ok e r ↔ ∃ r₀ e', i = .not :: r₀ ∧ e = .not e' ∧ a r₀ = .ok e' r := by
  refine map_ok.trans ⟨fun ⟨e', h, he⟩ => ?_, fun ⟨r₀, e', hi, he, h⟩ => ⟨e', kwThen_ok.2 ⟨r₀, hi, h⟩, he⟩⟩
  obtain ⟨r₀, hi, h⟩ := kwThen_ok.1 h
  exact ⟨r₀, e', hi, he, h⟩

theorem notP_panic : notP a i = .panic s ↔ ∃ r₀, i = .not :: r₀ ∧ a r₀ = .panic s :=
  map_panic.trans kwThen_panic

theorem notP_bt : Bt (notP a) i ↔ i.head? ≠ some .not :=
  map_bt.trans kwThen_bt

theorem parensP_lparen (l : P Token Expr) (r₀ : List Token) :
    parensP l (.lparen :: r₀) = match l r₀ with
      | .ok e (.rparen :: r) => .ok e r
      | .ok _ r => .err true [.expected (cl!"missing_closing_parenthesis"), .label (cl!"parens")] r
      | .err _ c r => .err true (c ++ [.expected (cl!"missing_expression"), .label (cl!"parens")]) r
      | .panic s => .panic s := by
  simp only [parensP, delimited, context, preceded_oneOf_cons, tokIs, decide_true, if_true, terminated, map, pair,
    cutErr]
  cases l r₀ with
  | ok e r =>
    cases r with
    | nil => rfl
    | cons u r =>
      by_cases hu : u = .rparen
      · subst hu; rfl
      · simp [oneOf, tokIs, hu]
  | err k c r => simp only [List.append_assoc, List.cons_append, List.nil_append]
  | panic s => rfl

theorem parensP_bt : Bt (parensP l) i ↔ i.head? ≠ some .lparen := by
  refine ⟨fun h hh => ?_, fun h => ?_⟩
  · obtain ⟨r₀, rfl⟩ := List.head?_eq_some_iff.1 hh
    obtain ⟨c, r, h⟩ := h
    rw [parensP_lparen] at h
    split at h <;> cases h
  · cases i with
    | nil => exact ⟨_, [], rfl⟩
    | cons u r =>
      have : u ≠ .lparen := by simpa using h
      exact ⟨_, u :: r, by simp [parensP, delimited, context, preceded_oneOf_cons, tokIs, this]; rfl⟩

theorem parensP_ok : parensP l i = .ok e r ↔ ∃ r₀, i = .lparen :: r₀ ∧ l r₀ = .ok e (.rparen :: r) := by
  refine (eq_iff_head_of_bt parensP_bt.2 (by simp)).trans (exists_congr fun r₀ => and_congr_right fun _ => ?_)
  rw [parensP_lparen]
  split <;> simp_all

theorem parensP_panic : parensP l i = .panic s ↔ ∃ r₀, i = .lparen :: r₀ ∧ l r₀ = .panic s := by
  refine (eq_iff_head_of_bt parensP_bt.2 (by simp)).trans (exists_congr fun r₀ => and_congr_right fun _ => ?_)
  rw [parensP_lparen]
  split <;> simp_all

theorem atom_prim (h : primExpr t = some e) : atom pf (n + 1) (t :: r) = .ok e r := by
  cases t with
  | test _ | action _ | global _ | positional _ => cases h; rfl
  | _ => cases h

theorem prim_bt {site : Text} (h : isPrimTok t = false) :
    Bt (mapOrPanic site primExpr (oneOf isPrimTok)) (t :: r) :=
  ⟨[], t :: r, by simp [mapOrPanic, oneOf, h]⟩

theorem atom_not : atom pf (n + 1) (.not :: r) = notP (atom pf n) (.not :: r) := by
  rw [atom, alt_cons_of_bt (prim_bt rfl) (by simp), alt_cons_of_not_bt (by simp [notP_bt])]

theorem atom_lparen : atom pf (n + 1) (.lparen :: r) = parensP (listLevel pf (atom pf n)) (.lparen :: r) := by
  rw [atom, alt_cons_of_bt (prim_bt rfl) (by simp), alt_cons_of_bt (notP_bt.2 (by simp)) (by simp),
    alt_cons_of_not_bt (by simp [parensP_bt])]

/-- The tokens that are neither a primary, `!` nor `(`: `atom` backtracks on them. -/
def isStopTok : Token → Bool
  | .rparen | .or | .and | .comma => true
  | _ => false

theorem atom_nil : Bt (atom pf (n + 1)) [] := ⟨_, _, rfl⟩

theorem atom_stop (h : isStopTok t = true) : Bt (atom pf (n + 1)) (t :: r) := by
  cases t with
  | rparen | or | and | comma => exact ⟨_, _, rfl⟩
  | _ => cases h

theorem Token.kind (t : Token) :
    (∃ e, primExpr t = some e) ∨ t = .not ∨ t = .lparen ∨ isStopTok t = true := by
  cases t <;> simp [primExpr, isStopTok]

end parsers

section level
variable {sub body : P Token Expr} {mk : Expr → Expr → Expr} {pf : Profile} {i r : List Token} {e : Expr}

theorem foldLevel_first (h : sub i = .ok e r) :
    foldLevel pf sub body mk i = repeatFold pf body mk (r.length + 1) e r := by
  simp [foldLevel, h]

theorem foldLevel_err {k c} (h : sub i = .err k c r) : foldLevel pf sub body mk i = .err k c r := by
  simp [foldLevel, h]

theorem foldLevel_ok : foldLevel pf sub body mk i = .ok e r ↔
    ∃ e₀ r₀, sub i = .ok e₀ r₀ ∧ repeatFold pf body mk (r₀.length + 1) e₀ r₀ = .ok e r := by
  cases h : sub i with
  | ok e₀ r₀ =>
    rw [foldLevel_first h]
    exact ⟨fun h' => ⟨_, _, rfl, h'⟩, fun ⟨_, _, he, h'⟩ => by cases he; exact h'⟩
  | _ => simp [foldLevel, h]

end level

end FV

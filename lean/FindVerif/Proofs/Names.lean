import FindVerif.Model.Manager
import FindVerif.Proofs.Dec
import FindVerif.Proofs.Lists
/- Generated identifiers `%lf3:<kind>:<n>` as abstract (kind, index) pairs; their text is injective. -/
namespace FV

inductive Kind | port | mutex | print | match_ | frame | str
  deriving DecidableEq, Repr

def Kind.text : Kind → Text
  | .port => cl!"port" | .mutex => cl!"mutex" | .print => cl!"print"
  | .match_ => cl!"match" | .frame => cl!"frame" | .str => cl!"str"

structure GName where
  kind : Kind
  idx : Nat
  deriving DecidableEq, Repr

def GName.text (g : GName) : Text := lf3 g.kind.text g.idx

theorem GName.text_mk (k : Kind) (i : Nat) : (GName.mk k i).text = lf3 k.text i := rfl

theorem lf3_head (k : Text) (n : Nat) : (lf3 k n).head? = some '%' := by simp [lf3]

theorem gname_head (g : GName) : g.text.head? = some '%' := lf3_head _ _

theorem Kind.text_injective : ∀ a b : Kind, a.text = b.text → a = b := by
  intro a b h
  cases a <;> cases b <;> first | rfl | exact absurd h (by decide)

theorem Kind.text_no_colon : ∀ k : Kind, ∀ c ∈ k.text, c ≠ ':' := by
  intro k
  cases k <;> decide

theorem lf3_injective {k1 k2 : Text} {n1 n2 : Nat} (hc1 : ∀ c ∈ k1, c ≠ ':') (hc2 : ∀ c ∈ k2, c ≠ ':')
    (h : lf3 k1 n1 = lf3 k2 n2) : k1 = k2 ∧ n1 = n2 := by
  simp only [lf3, List.append_assoc, List.singleton_append] at h
  -- past the common prefix, both sides split at their first ':'
  have s1 := takeWhile_ne_append k1 (natToDec n1) hc1
  have s2 := takeWhile_ne_append k2 (natToDec n2) hc2
  rw [List.append_cancel_left h] at s1
  exact ⟨s1.1.symm.trans s2.1, natToDec_injective (List.cons.inj (s1.2.symm.trans s2.2)).2⟩

theorem Scheme.lf3_ne_lf3 (k1 k2 : Text) (n1 n2 : Nat) (h : k1 ≠ k2) (hc1 : ∀ c ∈ k1, c ≠ ':') (hc2 : ∀ c ∈ k2, c ≠ ':') :
    lf3 k1 n1 ≠ lf3 k2 n2 :=
  fun he => h (lf3_injective hc1 hc2 he).1

theorem GName.text_injective (a b : GName) (h : a.text = b.text) : a = b := by
  obtain ⟨ka, ia⟩ := a
  obtain ⟨kb, ib⟩ := b
  obtain ⟨hk, rfl⟩ := lf3_injective (Kind.text_no_colon ka) (Kind.text_no_colon kb) h
  rw [Kind.text_injective _ _ hk]

end FV

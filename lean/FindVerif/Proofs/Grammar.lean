import FindVerif.Spec.Grammar
/- The four levels of the grammar as one family: each is included in `GList`, and one induction
   with a single motive serves all of them. -/
namespace FV
namespace Spec

theorem GAtom.toList {ts e} (h : GAtom ts e) : GList ts e := .or (.and (.atom h))
theorem GAnd.toList {ts e} (h : GAnd ts e) : GList ts e := .or (.and h)

/-- The recursor itself, with the same motive at every level, so that the three inclusion rules
    `atom ⊆ and ⊆ or ⊆ list` need no case. -/
theorem GList.induct {φ : List Token → Expr → Prop}
    (prim : ∀ {t e}, primOf t = some e → φ [t] e)
    (not : ∀ {ts e}, φ ts e → φ (.not :: ts) (.not e))
    (paren : ∀ {ts e}, φ ts e → φ (.lparen :: (ts ++ [.rparen])) e)
    (node : ∀ {ts₁ ts₂ e₁ e₂} (sep : List Token) {mk : Expr → Expr → Expr},
      mk = .and ∨ mk = .or ∨ mk = .list → φ ts₁ e₁ → φ ts₂ e₂ → φ (ts₁ ++ (sep ++ ts₂)) (mk e₁ e₂))
    {ts e} (h : GList ts e) : φ ts e :=
  @GList.rec (fun ts e _ => φ ts e) (fun ts e _ => φ ts e) (fun ts e _ => φ ts e) (fun ts e _ => φ ts e)
    (fun h => prim h) (fun _ ih => not ih) (fun _ ih => paren ih)
    (fun _ ih => ih) (fun _ _ ih₁ ih₂ => node [.and] (.inl rfl) ih₁ ih₂) (fun _ _ ih₁ ih₂ => node [] (.inl rfl) ih₁ ih₂)
    (fun _ ih => ih) (fun _ _ ih₁ ih₂ => node [.or] (.inr (.inl rfl)) ih₁ ih₂)
    (fun _ ih => ih) (fun _ _ ih₁ ih₂ => node [.comma] (.inr (.inr rfl)) ih₁ ih₂) ts e h

theorem GList.ne_nil {ts e} (h : GList ts e) : ts ≠ [] :=
  h.induct (φ := fun ts _ => ts ≠ []) (by simp) (by simp) (by simp) (fun _ _ _ h _ => by simp [h])

theorem GAtom.head_ne_and : ∀ {ts e}, GAtom ts e → ∀ rest, (ts ++ rest).head? ≠ some Token.and
  | _, _, @GAtom.prim t e h, _ => by
    cases t with
    | and => cases h
    | _ => simp
  | _, _, .not _, _ => by simp
  | _, _, .paren _, _ => by simp

end Spec
end FV

import FindVerif.Model.Winnow
import FindVerif.Proofs.Prefix
import FindVerif.Proofs.Lists
/-
  Each combinator is characterised once, by those of its three faces at an input that are used:
  when it succeeds (`*_ok`), when it panics (`*_panic`), when it backtracks (`*_bt`).  Everything
  else about a composed parser is read off these.  Four judgments on parsers are defined here:
  `NoPanic p`; `Sound p R` (partial correctness), with a lemma per primitive; `NonInc p` and
  `Consumes p`, which are read off `Sound`.
  That a composed parser never panics is proved with its progress, as `Safe` (`WinnowGood`).
-/
namespace FV

/-- The parser backtracks (recoverable failure): where an enclosing `alt` moves on and a `repeat`
    loop stops. -/
def Bt {ι α} (p : P ι α) (i : List ι) : Prop := ∃ c r, p i = .err false c r

namespace Bt
variable {ι α : Type} {p : P ι α} {i : List ι}

/-- Whether a parser backtracks is read off its result: no appeal to excluded middle. -/
theorem em (p : P ι α) (i : List ι) : Bt p i ∨ ¬ Bt p i := by
  cases h : p i with
  | err k c r =>
    cases k
    · exact .inl ⟨c, r, h⟩
    · exact .inr fun ⟨_, _, h'⟩ => by cases h.symm.trans h'
  | _ => exact .inr fun ⟨_, _, h'⟩ => by cases h.symm.trans h'

theorem ne_ok {a r} (h : Bt p i) : p i ≠ .ok a r := by
  obtain ⟨c, r', h⟩ := h
  simp [h]

theorem ne_panic {s} (h : Bt p i) : p i ≠ .panic s := by
  obtain ⟨c, r', h⟩ := h
  simp [h]

end Bt

namespace W
variable {ι α β γ : Type}

def NoPanic (p : P ι α) : Prop := ∀ i s, p i ≠ .panic s

def Sound (p : P ι α) (R : List ι → α → Prop) : Prop :=
  ∀ i a r, p i = .ok a r → ∃ pre, i = pre ++ r ∧ R pre a

def NonInc (p : P ι α) : Prop := ∀ i a r, p i = .ok a r → r.length ≤ i.length

def Consumes (p : P ι α) : Prop := ∀ i a r, p i = .ok a r → r.length < i.length

theorem Sound.nonInc {p : P ι α} {R} (h : Sound p R) : NonInc p := by
  intro i a r hp
  obtain ⟨pre, rfl, _⟩ := h i a r hp
  simp

theorem Sound.mono {p : P ι α} {R S : List ι → α → Prop} (h : Sound p R)
    (hRS : ∀ pre a, R pre a → S pre a) : Sound p S := by
  intro i a r hp
  obtain ⟨pre, e, hr⟩ := h i a r hp
  exact ⟨pre, e, hRS _ _ hr⟩

theorem Sound.consumes {p : P ι α} {R} (h : Sound p R) (hne : ∀ pre a, R pre a → pre ≠ []) :
    Consumes p := by
  intro i a r hp
  obtain ⟨pre, rfl, hr⟩ := h i a r hp
  have := List.length_pos_iff.mpr (hne _ _ hr)
  simp; omega

section faces
variable {f : α → β} {g : α → Option β} {p : P ι α} {q : P ι β} {c : Ctx} {i : List ι} {s site : Text}

theorem context_of_eq {p' : P ι α} (h : p i = p' i) : context c p i = context c p' i := by
  simp only [context, h]

theorem map_ok {b r} : map f p i = .ok b r ↔ ∃ a, p i = .ok a r ∧ b = f a := by
  unfold map; grind

theorem map_of_ok {a r} (h : p i = .ok a r) : map f p i = .ok (f a) r := by
  simp only [map, h]

theorem map_panic : map f p i = .panic s ↔ p i = .panic s := by
  cases h : p i <;> simp [map, h]

theorem map_bt : Bt (map f p) i ↔ Bt p i := by
  cases h : p i <;> simp [Bt, map, h]

theorem mapOrPanic_ok {b r} : mapOrPanic site g p i = .ok b r ↔ ∃ a, p i = .ok a r ∧ g a = some b := by
  unfold mapOrPanic; grind

theorem mapOrPanic_of_ok {a b r} (h : p i = .ok a r) (hg : g a = some b) : mapOrPanic site g p i = .ok b r := by
  simp only [mapOrPanic, h, hg]

theorem mapOrPanic_panic :
    mapOrPanic site g p i = .panic s ↔ p i = .panic s ∨ ∃ a r, p i = .ok a r ∧ g a = none ∧ s = site := by
  unfold mapOrPanic; grind

theorem mapOrPanic_bt : Bt (mapOrPanic site g p) i ↔ Bt p i := by
  cases h : p i with
  | ok a r => cases hg : g a <;> simp [Bt, mapOrPanic, h, hg]
  | _ => simp [Bt, mapOrPanic, h]

theorem tryMap_ok {b r} : tryMap g p i = .ok b r ↔ ∃ a, p i = .ok a r ∧ g a = some b := by
  unfold tryMap; grind

theorem tryMap_of_ok {a b r} (h : p i = .ok a r) (hg : g a = some b) : tryMap g p i = .ok b r := by
  simp only [tryMap, h, hg]

theorem tryMap_panic : tryMap g p i = .panic s ↔ p i = .panic s := by
  unfold tryMap; grind

theorem tryMap_of_bt (h : Bt p i) : Bt (tryMap g p) i := by
  obtain ⟨c, r, h⟩ := h
  exact ⟨c, r, by simp only [tryMap, h]⟩

theorem pair_ok {ab r} : pair p q i = .ok ab r ↔ ∃ r1, p i = .ok ab.1 r1 ∧ q r1 = .ok ab.2 r := by
  unfold pair; grind

theorem pair_of_ok {a b r1 r} (h1 : p i = .ok a r1) (h2 : q r1 = .ok b r) : pair p q i = .ok (a, b) r := by
  simp only [pair, h1, h2]

theorem pair_panic : pair p q i = .panic s ↔ p i = .panic s ∨ ∃ a r1, p i = .ok a r1 ∧ q r1 = .panic s := by
  unfold pair; grind

theorem pair_bt : Bt (pair p q) i ↔ Bt p i ∨ ∃ a r1, p i = .ok a r1 ∧ Bt q r1 := by
  cases h : p i with
  | ok a r1 =>
    have hq : Bt (pair p q) i ↔ Bt q r1 := by cases h2 : q r1 <;> simp [Bt, pair, h, h2]
    rw [hq]
    exact ⟨fun hb => .inr ⟨a, r1, rfl, hb⟩, fun | .inl hb => absurd h hb.ne_ok | .inr ⟨_, _, e, hb⟩ => by cases e; exact hb⟩
  | _ => simp [Bt, pair, h]

theorem preceded_ok {b r} : preceded p q i = .ok b r ↔ ∃ a r1, p i = .ok a r1 ∧ q r1 = .ok b r := by
  simp only [preceded, map_ok, pair_ok]
  exact ⟨fun ⟨ab, ⟨r1, h1, h2⟩, e⟩ => ⟨ab.1, r1, h1, e ▸ h2⟩, fun ⟨a, r1, h1, h2⟩ => ⟨(a, b), ⟨r1, h1, h2⟩, rfl⟩⟩

theorem terminated_ok {a r} : terminated p q i = .ok a r ↔ ∃ b r1, p i = .ok a r1 ∧ q r1 = .ok b r := by
  simp only [terminated, map_ok, pair_ok]
  exact ⟨fun ⟨ab, ⟨r1, h1, h2⟩, e⟩ => ⟨ab.2, r1, e ▸ h1, h2⟩, fun ⟨b, r1, h1, h2⟩ => ⟨(a, b), ⟨r1, h1, h2⟩, rfl⟩⟩

theorem terminated_err {k c r} (h : p i = .err k c r) : terminated p q i = .err k c r := by
  simp [terminated, map, pair, h]

theorem cutErr_ok {a r} : cutErr p i = .ok a r ↔ p i = .ok a r := by
  cases h : p i <;> simp [cutErr, h]

theorem cutErr_panic : cutErr p i = .panic s ↔ p i = .panic s := by
  cases h : p i <;> simp [cutErr, h]

theorem cutErr_not_bt : ¬ Bt (cutErr p) i := by
  cases h : p i <;> simp [Bt, cutErr, h]

theorem context_ok {a r} : context c p i = .ok a r ↔ p i = .ok a r := by
  cases h : p i <;> simp [context, h]

theorem context_panic : context c p i = .panic s ↔ p i = .panic s := by
  cases h : p i <;> simp [context, h]

theorem context_bt : Bt (context c p) i ↔ Bt p i := by
  cases h : p i <;> simp [Bt, context, h]

theorem alt2_of_bt {p q : P ι α} (h : Bt p i) : alt2 p q i = q i := by
  obtain ⟨c, r, h⟩ := h
  simp [alt2, h]

theorem alt2_of_not_bt {p q : P ι α} (h : ¬ Bt p i) : alt2 p q i = p i := by
  unfold alt2
  split
  · exact absurd ⟨_, _, ‹_›⟩ h
  · rfl

theorem alt2_cases {p q : P ι α} {res} (h : alt2 p q i = res) : p i = res ∨ q i = res := by
  rcases Bt.em p i with hb | hb
  · exact .inr (by rw [← h, alt2_of_bt hb])
  · exact .inl (by rw [← h, alt2_of_not_bt hb])

theorem alt2_ok {p q : P ι α} {a r} : alt2 p q i = .ok a r ↔ p i = .ok a r ∨ (Bt p i ∧ q i = .ok a r) := by
  rcases Bt.em p i with h | h
  · have ⟨c, r', hp⟩ := h
    simp [alt2_of_bt h, h, hp]
  · simp [alt2_of_not_bt h, h]

theorem alt2_bt {p q : P ι α} : Bt (alt2 p q) i ↔ Bt p i ∧ Bt q i := by
  rcases Bt.em p i with h | h
  · simp only [Bt, alt2_of_bt h]
    exact ⟨fun h' => ⟨h, h'⟩, fun h' => h'.2⟩
  · simp only [Bt, alt2_of_not_bt h]
    exact ⟨fun h' => absurd h' h, fun h' => h'.1⟩

theorem alt_cons (p : P ι α) {ps : List (P ι α)} (h : ps ≠ []) : alt (p :: ps) = alt2 p (alt ps) := by
  cases ps with
  | nil => exact absurd rfl h
  | cons q qs => rfl

theorem alt_cons_of_bt {p : P ι α} {ps : List (P ι α)} (h : Bt p i) (hps : ps ≠ []) : alt (p :: ps) i = alt ps i := by
  rw [alt_cons p hps, alt2_of_bt h]

theorem alt_cons_of_not_bt {p : P ι α} {ps : List (P ι α)} (h : ¬ Bt p i) : alt (p :: ps) i = p i := by
  cases ps with
  | nil => rfl
  | cons q qs => rw [alt_cons p (by simp), alt2_of_not_bt h]

theorem alt_cons_of_ok {p : P ι α} {ps : List (P ι α)} {a r} (h : p i = .ok a r) : alt (p :: ps) i = .ok a r := by
  rw [alt_cons_of_not_bt fun hb => hb.ne_ok h, h]

theorem alt_append_of_bt {pre post : List (P ι α)} (h : ∀ p ∈ pre, Bt p i) (hpost : post ≠ []) :
    alt (pre ++ post) i = alt post i := by
  induction pre with
  | nil => rfl
  | cons p pre ih =>
    rw [List.cons_append, alt_cons_of_bt (h p (by simp)) (by simp [hpost]), ih fun x hx => h x (by simp [hx])]

theorem andThen_ok {outer : P ι (List ι)} {inner : P ι β} {b r} :
    andThen outer inner i = .ok b r ↔ ∃ slice r', outer i = .ok slice r ∧ inner slice = .ok b r' := by
  unfold andThen; grind

theorem andThen_of_ok {outer : P ι (List ι)} {inner : P ι β} {sl r r' b} (h1 : outer i = .ok sl r)
    (h2 : inner sl = .ok b r') : andThen outer inner i = .ok b r := by
  simp only [andThen, h1, h2]

theorem andThen_panic {outer : P ι (List ι)} {inner : P ι β} :
    andThen outer inner i = .panic s ↔ outer i = .panic s ∨ ∃ slice r, outer i = .ok slice r ∧ inner slice = .panic s := by
  unfold andThen; grind

theorem andThen_of_bt {outer : P ι (List ι)} {inner : P ι β} (h : Bt outer i) : Bt (andThen outer inner) i := by
  obtain ⟨c, r, h⟩ := h
  exact ⟨c, r, by simp only [andThen, h]⟩

end faces

theorem sound_pure (a : α) : Sound (pure a : P ι α) (fun pre b => pre = [] ∧ b = a) := by
  intro i b r h
  cases h
  exact ⟨[], rfl, rfl, rfl⟩

theorem noPanic_fail : NoPanic (fail : P ι α) := by intro i s h; cases h

theorem sound_eof : Sound (eof : P ι Unit) (fun pre _ => pre = []) := by
  intro i a r h
  cases i <;> cases h
  exact ⟨[], rfl, rfl⟩

theorem sound_any : Sound (any : P ι ι) (fun pre a => pre = [a]) := by
  intro i a r h
  cases i <;> cases h
  exact ⟨_, rfl, rfl⟩

theorem sound_oneOf (f : ι → Bool) : Sound (oneOf f) (fun pre a => pre = [a] ∧ f a = true) := by
  intro i a r h
  cases i with
  | nil => cases h
  | cons x xs =>
    simp only [oneOf] at h
    split at h <;> cases h
    exact ⟨_, rfl, rfl, ‹_›⟩

theorem sound_lit (s : Text) : Sound (lit s) (fun pre _ => pre = s) := by
  intro i a r h
  unfold lit at h
  split at h <;> cases h
  exact ⟨s, isPrefix_eq_append ‹_›, rfl⟩

theorem sound_takeWhile (m : Nat) (f : ι → Bool) :
    Sound (takeWhile m f) (fun pre a => pre = a ∧ m ≤ a.length ∧ ∀ c ∈ a, f c = true) := by
  intro i a r h
  simp only [takeWhile] at h
  split at h <;> cases h
  exact ⟨_, List.takeWhile_append_dropWhile.symm, rfl, ‹_›, fun _ hc => mem_takeWhile_imp hc⟩

theorem sound_takeWhileMN (m n : Nat) (f : ι → Bool) :
    Sound (takeWhileMN m n f)
      (fun pre a => pre = a ∧ m ≤ a.length ∧ a.length ≤ n ∧ ∀ c ∈ a, f c = true) := by
  intro i a r h
  simp only [takeWhileMN] at h
  split at h <;> cases h
  exact ⟨_, (List.prefix_iff_eq_append.mp ((List.take_prefix n _).trans (List.takeWhile_prefix f))).symm, rfl, ‹_›,
    by simp; omega, fun _ hc => mem_takeWhile_imp (List.mem_of_mem_take hc)⟩

theorem sound_takeUntil1 (d : Char) : Sound (takeUntil1 d) (fun pre a => pre = a ∧ a ≠ []) := by
  intro i a r h
  simp only [takeUntil1] at h
  split at h
  · cases h
  · split at h <;> cases h
    exact ⟨_, List.takeWhile_append_dropWhile.symm, rfl, fun he => ‹¬ _› (by rw [he]; rfl)⟩

theorem noPanic_map {p : P ι α} (f : α → β) (h : NoPanic p) : NoPanic (map f p) :=
  fun i s hm => h i s (map_panic.1 hm)

theorem noPanic_mapOrPanic {p : P ι α} {R} (site : Text) (f : α → Option β) (hs : Sound p R)
    (hn : NoPanic p) (hf : ∀ pre a, R pre a → (f a).isSome) : NoPanic (mapOrPanic site f p) := by
  intro i s hm
  rcases mapOrPanic_panic.1 hm with hp | ⟨a, r, hp, hnone⟩
  · exact hn i s hp
  · obtain ⟨pre, _, hr⟩ := hs i a r hp
    simpa [hnone] using hf pre a hr

theorem noPanic_pair {p : P ι α} {q : P ι β} (hp : NoPanic p) (hq : NoPanic q) : NoPanic (pair p q) := by
  intro i s h
  rcases pair_panic.1 h with h1 | ⟨_, r1, _, h2⟩
  · exact hp i s h1
  · exact hq r1 s h2

theorem noPanic_preceded {p : P ι α} {q : P ι β} (hp : NoPanic p) (hq : NoPanic q) :
    NoPanic (preceded p q) := noPanic_map _ (noPanic_pair hp hq)

theorem sound_alt2 {p q : P ι α} {R} (hp : Sound p R) (hq : Sound q R) : Sound (alt2 p q) R :=
  fun i a r h => (alt2_cases h).elim (hp i a r) (hq i a r)

theorem noPanic_alt2 {p q : P ι α} (hp : NoPanic p) (hq : NoPanic q) : NoPanic (alt2 p q) :=
  fun i s h => (alt2_cases h).elim (hp i s) (hq i s)

theorem alt_induct {C : P ι α → Prop} (hfail : C fail) (h2 : ∀ {p q}, C p → C q → C (alt2 p q)) :
    ∀ {ps : List (P ι α)}, (∀ p ∈ ps, C p) → C (alt ps)
  | [], _ => hfail
  | [p], h => h p (by simp)
  | p :: q :: qs, h => h2 (h p (by simp)) (alt_induct hfail h2 (fun x hx => h x (by simp [hx])))

theorem alt_all_bt (ps : List (P ι α)) (i : List ι) (h : ∀ p ∈ ps, Bt p i) : Bt (alt ps) i :=
  alt_induct (C := fun p => Bt p i) ⟨[], i, rfl⟩ (fun hp hq => alt2_bt.2 ⟨hp, hq⟩) h

theorem noPanic_alt {ps : List (P ι α)} (h : ∀ p ∈ ps, NoPanic p) : NoPanic (alt ps) :=
  alt_induct noPanic_fail noPanic_alt2 h

end W
end FV

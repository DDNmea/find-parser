import FindVerif.Model.Lex.Format
import FindVerif.Spec.Printf
import FindVerif.Proofs.LexGood
import FindVerif.Proofs.WinnowEval
/- Element level of the format-string proof: `parseElement` against `Spec.Printf.directive/escape`.
   Both tables of `format.rs` are `alt`s over rows `value v (lit k)`; such an `alt` is a lookup of the
   first key that is a prefix of the input (`alt_table`), after which agreement with the reference
   tables is a fact about two fixed tables. -/
namespace FV
open W Spec.Printf

/-- The non-table tail of `FormatField::parse`'s alternatives. -/
def fieldTail : List (P Char FormatField) :=
  [ map FormatField.accessFormatted (preceded (lit (cl!"A")) any),
    map FormatField.changeFormatted (preceded (lit (cl!"C")) any),
    map FormatField.modifyFormatted (preceded (lit (cl!"T")) any),
    map FormatField.xattr (delimited (lit (cl!"{xattr:")) alpha1 (lit (cl!"}"))),
    cutErr (context (expected (cl!"invalid_format_specifier")) fail) ]

theorem parseField_eq :
    parseField = preceded (lit (cl!"%")) (alt ((fieldTable.map fun kv => value kv.2 (lit kv.1)) ++ fieldTail)) := rfl

theorem fieldTable_eq : fieldTable = directives := rfl

theorem timeRow_bt {a : Char} {f : Char → FormatField} {s : Text} (h : ∀ k r, s ≠ a :: k :: r) :
    Bt (map f (preceded (lit [a]) any)) s :=
  match s, h with
  | [], _ => ⟨[], [], rfl⟩
  | [c], _ => ⟨[], if a = c then [] else [c], by by_cases e : a = c <;> simp [map, preceded_lit, isPrefix, any, e]⟩
  | c :: k :: r, h =>
    have : a ≠ c := fun e => h k r (by rw [e])
    ⟨[], c :: k :: r, by simp [map, preceded_lit, isPrefix, this]⟩

theorem parseField_percent (cs : Text) :
    parseField ('%' :: cs) =
      match directive cs with
      | some (f, r) => .ok f r
      | none => .err true [expected (cl!"invalid_format_specifier")] cs := by
  rw [parseField_eq, preceded_lit_cons, alt_table, fieldTable_eq]
  -- the spec is unfolded in a hypothesis, so that `split` follows its case tree and not the goal's
  generalize ho : directive cs = o
  unfold directive at ho
  cases hf : directives.find? (fun kv => isPrefix kv.1 cs) with
  | some kv => rw [hf] at ho; subst ho; rfl
  | none =>
    rw [hf] at ho
    dsimp only at ho
    show alt fieldTail cs = _
    split at ho <;> subst ho
    -- `%Ak`, `%Ck`, `%Tk`: the rows before the letter's own pass it over
    · exact alt_cons_of_ok (map_preceded_lit_ok rfl)
    · exact (alt_cons_of_bt (map_preceded_lit_bt (by decide)) (by simp)).trans (alt_cons_of_ok (map_preceded_lit_ok rfl))
    · exact (alt_cons_of_bt (map_preceded_lit_bt (by decide)) (by simp)).trans
        ((alt_cons_of_bt (map_preceded_lit_bt (by decide)) (by simp)).trans (alt_cons_of_ok (map_preceded_lit_ok rfl)))
    · next hA hC hT =>
      -- `%Ak`, `%Ck`, `%Tk` backtrack; `%{xattr:NAME}` or the final hard error decides
      rw [fieldTail, alt_cons_of_bt (timeRow_bt hA) (by simp), alt_cons_of_bt (timeRow_bt hC) (by simp),
        alt_cons_of_bt (timeRow_bt hT) (by simp)]
      simp only [alt, alt2, map, delimited, preceded_lit, terminated, pair, alpha1, takeWhile, cutErr, context, fail,
        List.length_cons, List.length_nil, List.nil_append]
      -- unfolded, both sides decide on the same three things: the prefix, the run of letters behind it
      -- (empty or not), and the character that ends the run (`}` or not)
      generalize List.drop 7 cs = body
      cases isPrefix (cl!"{xattr:") cs with
      | false => rfl
      | true =>
        simp only [if_true]
        cases List.dropWhile isAlpha body with
        | nil => cases List.takeWhile isAlpha body <;> simp [lit, isPrefix]
        | cons d r =>
          by_cases hd : d = '}'
          · subst hd; cases List.takeWhile isAlpha body <;> simp [lit, isPrefix]
          · cases List.takeWhile isAlpha body <;> simp [lit, isPrefix, hd, Ne.symm hd]

theorem parseField_other (i : Text) (h : ∀ cs, i ≠ '%' :: cs) : parseField i = .err false [] i := by
  rw [parseField_eq, preceded_lit, isPrefix_single_false h]
  rfl

/-- The single-character escapes of `FormatSpecial::parse`, in source order. -/
def escRows : List (Char × FormatSpecial) :=
  [ ('0', .null), ('\\', .backslash), ('a', .alarm), ('b', .backspace), ('c', .clear), ('f', .form),
    ('n', .newline), ('r', .carriageReturn), ('t', .tabHorizontal), ('v', .tabVertical) ]

theorem escRows_find (a : Char) : escRows.find? (fun kv => kv.1 = a) = escapes.find? (fun kv => kv.1 = a) :=
  find?_key_congr (by decide) (by decide) a

/-- The octal alternative of `FormatSpecial::parse`. -/
def octP : P Char FormatSpecial := mapOrPanic (cl!"format.rs:unwrap") octalEscape (takeWhileMN 3 3 isOct)

theorem parseSpecial_eq : parseSpecial =
    alt2 (preceded (lit (cl!"\\")) (alt (octP :: escRows.map fun kv => value kv.2 (lit [kv.1]))))
      (value .backslash (lit (cl!"\\"))) := rfl

def threeOct (cs : Text) : Bool :=
  match cs with
  | a :: b :: c :: _ => isOct a && isOct b && isOct c
  | _ => false

theorem octP_eval (cs : Text) :
    octP cs = if threeOct cs then .ok (.ascii (octVal (cs.take 3))) (cs.drop 3) else .err false [] cs := by
  cases h3 : threeOct cs with
  | true =>
    obtain ⟨a, b, c, r, rfl⟩ : ∃ a b c r, cs = a :: b :: c :: r := by
      match cs, h3 with
      | a :: b :: c :: r, _ => exact ⟨a, b, c, r, rfl⟩
    simp only [threeOct, Bool.and_eq_true] at h3
    obtain ⟨⟨ha, hb⟩, hc⟩ := h3
    have hrun : takeWhileMN 3 3 isOct (a :: b :: c :: r) = .ok [a, b, c] r := by simp [takeWhileMN, ha, hb, hc]
    -- the value of three octal digits is below 8 ^ 3, so `octalEscape` has one (the `unwrap` is safe)
    have hv : octVal [a, b, c] < 65536 := Nat.lt_trans (octVal_lt [a, b, c] (by simp [ha, hb, hc])) (show 8 ^ 3 < 65536 by decide)
    exact mapOrPanic_of_ok hrun (if_pos hv)
  | false =>
    have hshort : ¬ 3 ≤ ((cs.takeWhile isOct).take 3).length := by
      match cs, h3 with
      | [], _ => simp
      | [a], _ => by_cases ha : isOct a = true <;> simp [ha]
      | [a, b], _ => by_cases ha : isOct a = true <;> by_cases hb : isOct b = true <;> simp [ha, hb]
      | a :: b :: c :: r, h3 =>
        by_cases ha : isOct a = true <;> by_cases hb : isOct b = true <;> by_cases hc : isOct c = true <;>
          simp_all [threeOct]
    simp only [octP, mapOrPanic, takeWhileMN, if_neg hshort]
    rfl

/-- The spec's escape reader, with its two copies of the table lookup merged. -/
theorem escape_eq (s : Text) :
    escape s = if threeOct s then (.ascii (octVal (s.take 3)), s.drop 3) else
      match s with
      | [] => (.backslash, [])
      | a :: r => match escapes.find? (fun kv => kv.1 = a) with
        | some kv => (kv.2, r)
        | none => (.backslash, s) := by
  match s with
  | [] => rfl
  | [a] => rfl
  | [a, b] => rfl
  | a :: b :: c :: r => cases h : isOct a && isOct b && isOct c <;> simp only [escape, threeOct, h] <;> rfl

theorem parseSpecial_backslash (cs : Text) : parseSpecial ('\\' :: cs) = .ok (escape cs).1 (escape cs).2 := by
  have hrows : (escRows.map fun kv => value kv.2 (lit [kv.1])) ≠ [] := by simp [escRows]
  rw [parseSpecial_eq, escape_eq, alt2, preceded_lit_cons, alt_cons octP hrows, alt2, octP_eval]
  cases threeOct cs with
  | true => rfl
  | false =>
    cases cs with
    | nil => rfl
    | cons a r =>
      simp only [Bool.false_eq_true, if_false]
      rw [alt_charTable, escRows_find]
      cases escapes.find? (fun kv => kv.1 = a) <;> rfl

theorem parseSpecial_other (i : Text) (h : ∀ cs, i ≠ '\\' :: cs) : parseSpecial i = .err false [] i := by
  have hp := isPrefix_single_false h
  rw [parseSpecial_eq, alt2_of_bt ⟨[], i, by rw [preceded_lit, hp]; rfl⟩, value, map, lit_fail _ _ hp]

/-- Shape of the outcome of reading one element at the head of the input. -/
inductive Head where
  | elem (el : FormatElement) (rest : Text)
  | bad
  | plain

def specHead (i : Text) : Head :=
  match i with
  | '%' :: cs => match directive cs with
    | some (f, r) => .elem (.field f) r
    | none => .bad
  | '\\' :: cs => let x := escape cs; .elem (.special x.1) x.2
  | _ => .plain

theorem specHead_nil : specHead [] = .plain := rfl

theorem specHead_percent (cs : Text) : specHead ('%' :: cs) =
    match directive cs with
    | some (f, r) => .elem (.field f) r
    | none => .bad := rfl

theorem specHead_backslash (cs : Text) : specHead ('\\' :: cs) = .elem (.special (escape cs).1) (escape cs).2 := rfl

theorem specHead_other (i : Text) (hp : ∀ cs, i ≠ '%' :: cs) (hb : ∀ cs, i ≠ '\\' :: cs) : specHead i = .plain := by
  unfold specHead
  split
  · exact absurd rfl (hp _)
  · exact absurd rfl (hb _)
  · rfl

theorem parseElement_eq (i : Text) :
    parseElement i =
      match specHead i with
      | .elem el r => .ok el r
      | .bad => .err true [expected (cl!"invalid_format_specifier")] (i.drop 1)
      | .plain => .err false [] i := by
  by_cases hp : ∃ cs, i = '%' :: cs
  · obtain ⟨cs, rfl⟩ := hp
    simp only [parseElement, alt, alt2, map, parseField_percent, specHead_percent]
    cases directive cs with
    | none => rfl
    | some fr => rfl
  · have hp' : ∀ cs, i ≠ '%' :: cs := fun cs h => hp ⟨cs, h⟩
    simp only [parseElement, alt, alt2, map, parseField_other i hp']
    by_cases hb : ∃ cs, i = '\\' :: cs
    · obtain ⟨cs, rfl⟩ := hb
      rw [parseSpecial_backslash, specHead_backslash]
    · have hb' : ∀ cs, i ≠ '\\' :: cs := fun cs h => hb ⟨cs, h⟩
      rw [parseSpecial_other i hb', specHead_other i hp' hb']

end FV

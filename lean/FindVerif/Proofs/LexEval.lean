import FindVerif.Proofs.WinnowEval
import FindVerif.Model.Lex.Token
/- The keyword macros `unary!` and `binary!`: where they backtrack, what a success of `unary!` is, and
   what each returns on keyword, blanks, argument(s). -/
namespace FV
open W

/-- Behind the keyword every failure is a hard error. -/
theorem unary_bt {α β : Type} {kw : Text} {tr : α → β} {p : P Char α} {i : Text} :
    Bt (unary kw tr p) i ↔ isPrefix kw i = false :=
  map_bt.trans (context_bt.trans (preceded_lit_bt (fun _ => cutErr_not_bt) i))

theorem binary_bt {α β γ : Type} {kw : Text} {tr : α × β → γ} {l : P Char α} {r : P Char β} {args i : Text} :
    Bt (binary kw tr l r args) i ↔ isPrefix kw i = false :=
  map_bt.trans (context_bt.trans (preceded_lit_bt (fun _ => cutErr_not_bt) i))

theorem unary_ok_arg {α β : Type} {kw : Text} {tr : α → β} {p : P Char α} {i b r} (h : unary kw tr p i = .ok b r) :
    ∃ a j, p j = .ok a r ∧ b = tr a := by
  obtain ⟨a, h1, rfl⟩ := map_ok.1 h
  obtain ⟨_, _, _, h2⟩ := preceded_ok.1 (context_ok.1 h1)
  obtain ⟨_, j, _, h3⟩ := preceded_ok.1 (cutErr_ok.1 h2)
  exact ⟨a, j, cutErr_ok.1 h3, rfl⟩

theorem unary_eval {α β : Type} (kw : Text) (tr : α → β) (p : P Char α) (ws x : Text) (h : BlankRun ws x) :
    unary kw tr p (kw ++ (ws ++ x)) =
      match p x with
      | .ok v r => .ok (tr v) r
      | .err _ c r => .err true (c ++ [label kw]) r
      | .panic s => .panic s := by
  simp only [unary, map, context, preceded, pair, lit_append, cutErr, multispace1_run ws x h]
  cases p x with
  | ok v r => rfl
  | err k c r => rfl
  | panic s => rfl

theorem unary_missing {α β : Type} (kw : Text) (tr : α → β) (p : P Char α) {x : Text} (h : NoLead x) :
    unary kw tr p (kw ++ x) = .err true [label kw] x := by
  simp [unary, map, context, preceded, pair, lit_append, cutErr, multispace1_none h]

theorem binary_eval {α β γ : Type} (kw : Text) (tr : α × β → γ) (l : P Char α) (r : P Char β) (args : Text)
    {ws1 a ws2 x : Text} {v1 : α} (h1 : BlankRun ws1 (a ++ (ws2 ++ x))) (hl : l (a ++ (ws2 ++ x)) = .ok v1 (ws2 ++ x))
    (h2 : BlankRun ws2 x) :
    binary kw tr l r args (kw ++ (ws1 ++ (a ++ (ws2 ++ x)))) =
      match r x with
      | .ok v2 r' => .ok (tr (v1, v2)) r'
      | .err _ c r' => .err true (c ++ [expected args, label kw]) r'
      | .panic s => .panic s := by
  simp only [binary, separatedPair, map, context, preceded, pair, lit_append, cutErr, multispace1_run _ _ h1, hl,
    multispace1_run _ _ h2]
  cases r x with
  | ok v2 r' => rfl
  | err k c r' => simp only [List.append_assoc, List.cons_append, List.nil_append]
  | panic s => rfl

end FV

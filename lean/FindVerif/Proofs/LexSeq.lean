import FindVerif.Proofs.LexToken
/- Lexing a whole input as a sequence of tokens read one after another: reading a readable prefix is
   the token loop going on behind it (`LexPrefix.loop`), so the lexer's result is decided where the
   prefix ends. -/
namespace FV
open W

/-- From `i` (a token start) the tokens `ts` are read, each followed by blanks, leaving `r`. -/
inductive LexPrefix (pf : Profile) : Text → List Token → Text → Prop
  | nil (i : Text) : LexPrefix pf i [] i
  | cons {i t r ts r'} : token pf i = .ok t r → LexPrefix pf (r.dropWhile isBlank) ts r' → LexPrefix pf i (t :: ts) r'

theorem LexPrefix.ne_nil {pf : Profile} {i r : Text} {t : Token} {ts : List Token} (h : LexPrefix pf i (t :: ts) r) :
    i ≠ [] := by
  rintro rfl
  cases h with
  | cons ht _ => exact absurd ((safe_token pf).consumes [] _ _ ht) (Nat.not_lt_zero _)

theorem LexPrefix.eq_nil_of_nil {pf : Profile} {ts : List Token} {r : Text} (h : LexPrefix pf [] ts r) : r = [] := by
  cases ts with
  | nil => cases h; rfl
  | cons t ts => exact absurd rfl h.ne_nil

theorem LexPrefix.loop {pf : Profile} {i ts r} (h : LexPrefix pf i ts r) : ∀ {n m : Nat} {acc : List Token},
    i.length < n → r.length < m →
    repeatTillLoop pf (terminated (token pf) multispace0) eof n acc i
      = repeatTillLoop pf (terminated (token pf) multispace0) eof m (ts.reverse ++ acc) r := by
  have hc := ((safe_token pf).terminated safe_multispace0).consumes
  induction h with
  | nil i => exact fun hn hm => repeatTillLoop_stable pf pf hc hn hm
  | @cons i t r1 ts r' htok _ ih =>
    intro n m acc hn hm
    have hb := terminated_ms0_ok.2 ⟨r1, htok, rfl⟩
    have hlt := hc _ _ _ hb
    obtain ⟨n, rfl⟩ : ∃ k, n = k + 1 := ⟨n - 1, by omega⟩
    cases i with
    | nil => exact absurd hlt (Nat.not_lt_zero _)
    | cons d ds =>
      rw [repeatTillLoop_step pf (eof_cons_bt _ _) hb hlt, ih (by omega) hm]
      simp

theorem lex_of_prefix (pf : Profile) (s : Text) (t : Token) (ts : List Token)
    (h : LexPrefix pf (s.dropWhile isBlank) (t :: ts) []) : lex pf s = .ok (t :: ts) [] := by
  cases h with
  | cons htok hrest =>
    rw [lex_eq, map, repeatTill1_first (terminated_ms0_ok.2 ⟨_, htok, rfl⟩),
      hrest.loop (acc := [t]) (Nat.lt_succ_self _) (Nat.lt_succ_self 0),
      repeatTillLoop_stop pf 0 _ eof_nil]
    simp

/-- Not at the very end behind a token (`hr`): there `eof` ends the loop before `token` is tried. -/
theorem lex_error_at {pf : Profile} {s : Text} {ts : List Token} {r : Text} {k : Bool} {c : List Ctx} {r' : Text}
    (h : LexPrefix pf (s.dropWhile isBlank) ts r) (hr : r ≠ [] ∨ ts = []) (herr : token pf r = .err k c r') :
    lex pf s = .err k c r' := by
  cases h with
  | nil i => rw [lex_eq, map, repeatTill1_err (terminated_err herr)]
  | @cons _ t _ _ _ htok hrest =>
    obtain ⟨d, ds, rfl⟩ := List.exists_cons_of_ne_nil (hr.resolve_right (List.cons_ne_nil _ _))
    rw [lex_eq, map, repeatTill1_first (terminated_ms0_ok.2 ⟨_, htok, rfl⟩),
      hrest.loop (acc := [t]) (Nat.lt_succ_self _) (Nat.lt_add_one _),
      repeatTillLoop_err pf _ _ (eof_cons_bt _ _) (terminated_err herr)]

end FV

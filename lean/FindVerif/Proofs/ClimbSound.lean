import FindVerif.Proofs.Grammar
import FindVerif.Proofs.ClimbStep
/- Soundness of the precedence climber with respect to the grammar; in particular every loop body
   consumes. -/
namespace FV
open W Spec

theorem primExpr_eq_primOf (t : Token) : primExpr t = primOf t := by
  cases t <;> rfl

theorem sound_foldLevel {sub body : P Token Expr} {mk : Expr → Expr → Expr} {pf : Profile}
    {S B L : List Token → Expr → Prop} (hs : Sound sub S) (hb : Sound body B)
    (hbase : ∀ pre e, S pre e → L pre e)
    (hstep : ∀ pre0 acc pre a, L pre0 acc → B pre a → L (pre0 ++ pre) (mk acc a)) :
    Sound (foldLevel pf sub body mk) L := by
  intro i e r h
  obtain ⟨e₀, r₀, h1, h2⟩ := foldLevel_ok.1 h
  obtain ⟨pre1, rfl, hS⟩ := hs i e₀ r₀ h1
  obtain ⟨pre2, rfl, hL⟩ := repeatFold_sound pf hb hstep _ _ _ _ _ pre1 h2 (hbase _ _ hS)
  exact ⟨pre1 ++ pre2, by simp, hL⟩

theorem sound_kwThen {t : Token} {c : Ctx} {p : P Token Expr} {G} (hp : Sound p G) :
    Sound (kwThen t c p) (fun pre e => ∃ ts, pre = t :: ts ∧ G ts e) := by
  intro i e r h
  obtain ⟨r₀, rfl, h'⟩ := kwThen_ok.1 h
  obtain ⟨pre, rfl, hg⟩ := hp _ _ _ h'
  exact ⟨t :: pre, rfl, pre, rfl, hg⟩

theorem consumes_kwThen {t : Token} {c : Ctx} {p : P Token Expr} (hp : NonInc p) : Consumes (kwThen t c p) := by
  intro i e r h
  obtain ⟨r₀, rfl, h'⟩ := kwThen_ok.1 h
  exact Nat.lt_succ_of_le (hp _ _ _ h')

section levels
variable {a : P Token Expr} (pf : Profile) (ha : Sound a GAtom)
include ha

theorem sound_andBody :
    Sound (andBody a) (fun pre e => (∃ ts, pre = Token.and :: ts ∧ GAtom ts e) ∨ GAtom pre e) :=
  sound_alt2 ((sound_kwThen ha).mono fun _ _ => .inl) (ha.mono fun _ _ => .inr)

theorem sound_andLevel : Sound (andLevel pf a) GAnd := by
  refine sound_foldLevel ha (sound_andBody ha) (fun _ _ => .atom) ?_
  rintro pre0 acc pre e hL (⟨ts, rfl, hg⟩ | hg)
  · exact .andE hL hg
  · exact .andI hL hg

theorem sound_orLevel : Sound (orLevel pf a) GOr := by
  refine sound_foldLevel (sound_andLevel pf ha) (sound_kwThen (sound_andLevel pf ha)) (fun _ _ => .and) ?_
  rintro pre0 acc pre e hL ⟨ts, rfl, hg⟩
  exact .or hL hg

theorem sound_listLevel : Sound (listLevel pf a) GList := by
  refine sound_foldLevel (sound_orLevel pf ha) (sound_kwThen (sound_orLevel pf ha)) (fun _ _ => .or) ?_
  rintro pre0 acc pre e hL ⟨ts, rfl, hg⟩
  exact .comma hL hg

theorem consumes_andBody : Consumes (andBody a) :=
  fun i e r h => (alt2_cases h).elim (consumes_kwThen ha.nonInc i e r)
    (ha.consumes (fun _ _ hg => hg.toList.ne_nil) i e r)

theorem consumes_orBody : Consumes (orBody pf a) :=
  consumes_kwThen (sound_andLevel pf ha).nonInc

theorem consumes_listBody : Consumes (listBody pf a) :=
  consumes_kwThen (sound_orLevel pf ha).nonInc

end levels

theorem sound_atom (pf : Profile) (n : Nat) : Sound (atom pf n) GAtom := by
  induction n with
  | zero => intro i e r h; cases h
  | succ n ih =>
    intro i e r h
    cases i with
    | nil => cases h
    | cons t r₀ =>
      rcases t.kind with ⟨e', he⟩ | rfl | rfl | hs
      · cases (atom_prim he).symm.trans h
        exact ⟨[t], rfl, .prim (primExpr_eq_primOf t ▸ he)⟩
      · obtain ⟨_, e', hi, rfl, h'⟩ := notP_ok.1 (atom_not.symm.trans h)
        cases hi
        obtain ⟨pre, rfl, hg⟩ := ih _ _ _ h'
        exact ⟨.not :: pre, rfl, .not hg⟩
      · obtain ⟨_, hi, h'⟩ := parensP_ok.1 (atom_lparen.symm.trans h)
        cases hi
        obtain ⟨pre, rfl, hg⟩ := sound_listLevel pf ih _ _ _ h'
        exact ⟨.lparen :: (pre ++ [.rparen]), by simp, .paren hg⟩
      · exact absurd h (atom_stop hs).ne_ok

end FV

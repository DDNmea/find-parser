import FindVerif.Proofs.Grammar
import FindVerif.Spec.Supported
/- A sentence of the grammar without option tokens has a tree with no option node and no
   explicit-precedence node. -/
namespace FV
open Spec

def noGlobalTok (t : Token) : Prop := ∀ g, t ≠ .global g

theorem plainB_list : ∀ {ts e}, GList ts e → (∀ t ∈ ts, noGlobalTok t) → plainB e = true := fun h =>
  h.induct (φ := fun ts e => (∀ t ∈ ts, noGlobalTok t) → plainB e = true)
    (fun {t} _ h hn => by
      cases t with
      | global g => exact absurd rfl (hn (.global g) (by simp) g)
      | test _ | action _ | positional _ => cases h; rfl
      | _ => cases h)
    (fun ih hn => ih fun t ht => hn t (by simp [ht]))
    (fun ih hn => ih fun t ht => hn t (by simp [ht]))
    (fun _ _ hm ih₁ ih₂ hn => by
      have h₁ := ih₁ fun t ht => hn t (by simp [ht])
      have h₂ := ih₂ fun t ht => hn t (by simp [ht])
      rcases hm with rfl | rfl | rfl <;> simp [plainB, h₁, h₂])

theorem plainB_atom : ∀ {ts e}, GAtom ts e → (∀ t ∈ ts, noGlobalTok t) → plainB e = true :=
  fun h => plainB_list h.toList
theorem plainB_and : ∀ {ts e}, GAnd ts e → (∀ t ∈ ts, noGlobalTok t) → plainB e = true :=
  fun h => plainB_list h.toList
theorem plainB_or : ∀ {ts e}, GOr ts e → (∀ t ∈ ts, noGlobalTok t) → plainB e = true :=
  fun h => plainB_list (.or h)

end FV

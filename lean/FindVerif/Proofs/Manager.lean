import FindVerif.Proofs.Names
import FindVerif.Proofs.Grows
/-
  Invariants of the manager record under any sequence of registrations
  (`get_matcher` / `get_printer` / `get_file_printer`): names bound once, used after their
  binding, resources shared exactly per request.
-/
namespace FV

def Binding.binds : Binding → GName
  | .stdoutPort i | .filePort i _ => ⟨.port, i⟩
  | .mutex i => ⟨.mutex, i⟩
  | .printerL i _ _ _ | .printerD i => ⟨.print, i⟩
  | .matcher i _ _ => ⟨.match_, i + 1⟩
  | .frame => ⟨.frame, 2⟩

/-- The generated names its initialiser mentions (its own lambda parameters excluded). -/
def Binding.uses : Binding → List GName
  | .printerL _ p m _ => [⟨.port, p⟩, ⟨.mutex, m⟩]
  | .printerD _ => [⟨.frame, 2⟩]
  | .frame => [⟨.mutex, 1⟩, ⟨.port, 0⟩]
  | _ => []

theorem Binding.render_head (b : Binding) : ∃ rest, b.render = '(' :: (b.binds.text ++ ' ' :: rest) := by
  cases b with
  | frame => exact ⟨_, rfl⟩
  | stdoutPort i | mutex i | filePort i f | printerL i p m t | printerD i | matcher i p c =>
    simp only [Binding.render, List.append_assoc]
    exact ⟨_, rfl⟩

def Binding.isFrame : Binding → Bool
  | .frame => true
  | _ => false

structure Core (vars : List Binding) (varIndex : Nat) : Prop where
  below : ∀ b ∈ vars, b.isFrame = false → b.binds.idx < varIndex
  nodup : (vars.map Binding.binds).Nodup
  usesBound : ∀ pre b post, vars = pre ++ b :: post → ∀ u ∈ b.uses, u ∈ pre.map Binding.binds

theorem Core.mono {vars k k'} (h : Core vars k) (hk : k ≤ k') : Core vars k' :=
  ⟨fun b hb hf => Nat.lt_of_lt_of_le (h.below b hb hf) hk, h.nodup, h.usesBound⟩

theorem Binding.isFrame_iff (b : Binding) : b.isFrame = true ↔ b.binds.kind = .frame := by
  cases b <;> simp [Binding.isFrame, Binding.binds]

theorem Core.nil (k : Nat) : Core [] k :=
  ⟨fun _ hb => absurd hb List.not_mem_nil, List.nodup_nil, fun _ _ _ h => absurd h (by simp)⟩

theorem Core.snoc_fresh {vars k} (h : Core vars k) (b : Binding) (k' : Nat) (hk : k ≤ k')
    (hhi : b.isFrame = false → b.binds.idx < k') (hnew : b.binds ∉ vars.map Binding.binds)
    (huses : ∀ u ∈ b.uses, u ∈ vars.map Binding.binds) : Core (vars ++ [b]) k' := by
  refine ⟨?_, ?_, ?_⟩
  · intro c hc hf
    rcases List.mem_append.mp hc with hc | hc
    · exact Nat.lt_of_lt_of_le (h.below c hc hf) hk
    · rw [List.mem_singleton.mp hc] at hf ⊢; exact hhi hf
  · rw [List.map_append]
    exact nodup_snoc h.nodup hnew
  · intro pre c post hsplit u hu
    rcases snoc_split hsplit with ⟨rfl, rfl, rfl⟩ | ⟨post', rfl, rfl⟩
    · exact huses u hu
    · exact h.usesBound pre c post' rfl u hu

theorem Core.snoc {vars k} (h : Core vars k) (b : Binding) (k' : Nat)
    (hfr : b.isFrame = false) (hlo : k ≤ b.binds.idx) (hhi : b.binds.idx < k')
    (huses : ∀ u ∈ b.uses, u ∈ vars.map Binding.binds) : Core (vars ++ [b]) k' := by
  refine h.snoc_fresh b k' (by omega) (fun _ => hhi) (fun hmem => ?_) huses
  obtain ⟨c, hc, heq⟩ := List.mem_map.mp hmem
  -- a binding of the same name is not the frame either, so its slot is below the counter
  have hcf : c.isFrame = false := by
    rw [← Bool.not_eq_true, Binding.isFrame_iff, heq, ← Binding.isFrame_iff, hfr]
    exact Bool.false_ne_true
  have := h.below c hc hcf
  rw [heq] at this
  omega

/-- Assoc-list maps are functional and injective, and point at bindings. -/
structure Maps (m : Manager) : Prop where
  dKeys : (m.printersD.map Prod.fst).Nodup
  dVals : (m.printersD.map Prod.snd).Nodup
  dBound : ∀ t i, (t, i) ∈ m.printersD → Binding.printerD i ∈ m.vars
  lKeys : (m.printersL.map Prod.fst).Nodup
  lVals : (m.printersL.map Prod.snd).Nodup
  lBound : ∀ p t i, ((p, t), i) ∈ m.printersL → Binding.printerL i p.port p.mutex t ∈ m.vars
  mKeys : (m.matches_.map Prod.fst).Nodup
  mVals : (m.matches_.map Prod.snd).Nodup
  mBound : ∀ pat ci j, ((pat, ci), j) ∈ m.matches_ → ∃ i, j = i + 1 ∧ Binding.matcher i pat ci ∈ m.vars
  fKeys : (m.files.map Prod.fst).Nodup
  fBound : ∀ f p, (f, p) ∈ m.files → Binding.filePort p.port f ∈ m.vars ∧ Binding.mutex p.mutex ∈ m.vars
  defBound : ∀ p, m.defaultPort = some p → Binding.stdoutPort p.port ∈ m.vars ∧ Binding.mutex p.mutex ∈ m.vars
  frameBound : m.distributed = true → Binding.frame ∈ m.vars

structure Inv (m : Manager) : Prop where
  core : Core m.vars m.varIndex
  maps : Maps m

theorem Maps.of_empty {m : Manager} (hD : m.printersD = []) (hL : m.printersL = []) (hM : m.matches_ = [])
    (hF : m.files = []) (hP : m.defaultPort = none) (hfr : m.distributed = true → Binding.frame ∈ m.vars) : Maps m :=
  ⟨by simp [hD], by simp [hD], by simp [hD], by simp [hL], by simp [hL], by simp [hL], by simp [hM], by simp [hM],
   by simp [hM], by simp [hF], by simp [hF], by simp [hP], hfr⟩

theorem Inv.localInit : Inv Manager.localInit :=
  ⟨Core.nil 0, Maps.of_empty rfl rfl rfl rfl rfl fun h => nomatch h⟩

/-- Port 0, mutex 1, then the frame procedure, which uses both. -/
theorem Inv.distInit : Inv Manager.distInit :=
  ⟨(((Core.nil 0).snoc (.stdoutPort 0) 1 rfl (Nat.le_refl _) (Nat.lt_succ_self _) (fun _ h => nomatch h)).snoc
      (.mutex 1) 2 rfl (Nat.le_refl _) (Nat.lt_succ_self _) (fun _ h => nomatch h)).snoc_fresh
      .frame 2 (Nat.le_refl _) (fun h => nomatch h) (by decide) (by decide),
   Maps.of_empty rfl rfl rfl rfl rfl fun _ => by simp [Manager.distInit]⟩

/-- What every registration guarantees. -/
structure Step (m m' : Manager) : Prop where
  inv : Inv m'
  ext : ∃ e, m'.vars = m.vars ++ e
  mode : m'.distributed = m.distributed
  ctr : m.varIndex ≤ m'.varIndex
  keepD : ∀ x, x ∈ m.printersD → x ∈ m'.printersD
  keepL : ∀ x, x ∈ m.printersL → x ∈ m'.printersL
  keepM : ∀ x, x ∈ m.matches_ → x ∈ m'.matches_

theorem Step.refl {m} (h : Inv m) : Step m m :=
  ⟨h, ⟨[], by simp⟩, rfl, Nat.le_refl _, fun _ h => h, fun _ h => h, fun _ h => h⟩

theorem Step.trans {a b c} (h1 : Step a b) (h2 : Step b c) : Step a c := by
  obtain ⟨e1, he1⟩ := h1.ext
  obtain ⟨e2, he2⟩ := h2.ext
  exact ⟨h2.inv, ⟨e1 ++ e2, by rw [he2, he1]; simp⟩, h2.mode.trans h1.mode, Nat.le_trans h1.ctr h2.ctr,
    fun x hx => h2.keepD x (h1.keepD x hx), fun x hx => h2.keepL x (h1.keepL x hx),
    fun x hx => h2.keepM x (h1.keepM x hx)⟩

theorem Step.mem {m m' : Manager} (h : Step m m') {b} (hb : b ∈ m.vars) : b ∈ m'.vars := by
  obtain ⟨e, he⟩ := h.ext
  rw [he]
  exact List.mem_append_left e hb

theorem Maps.ext_vars {m : Manager} (h : Maps m) (vars' : List Binding) (k' : Nat)
    (hsub : ∀ b, b ∈ m.vars → b ∈ vars') : Maps { m with vars := vars', varIndex := k' } :=
  ⟨h.dKeys, h.dVals, fun t i hi => hsub _ (h.dBound t i hi), h.lKeys, h.lVals,
   fun p t i hi => hsub _ (h.lBound p t i hi), h.mKeys, h.mVals,
   fun pat ci j hj => by obtain ⟨i, rfl, hb⟩ := h.mBound pat ci j hj; exact ⟨i, rfl, hsub _ hb⟩,
   h.fKeys, fun f p hp => ⟨hsub _ (h.fBound f p hp).1, hsub _ (h.fBound f p hp).2⟩,
   fun p hp => ⟨hsub _ (h.defBound p hp).1, hsub _ (h.defBound p hp).2⟩,
   fun hd => hsub _ (h.frameBound hd)⟩

theorem vals_lt {m : Manager} (h : Inv m) :
    (∀ t i, (t, i) ∈ m.printersD → i < m.varIndex) ∧
    (∀ k i, (k, i) ∈ m.printersL → i < m.varIndex) ∧
    (∀ k j, (k, j) ∈ m.matches_ → j < m.varIndex) := by
  refine ⟨fun t i hi => ?_, fun k i hi => ?_, fun k j hj => ?_⟩
  · exact h.core.below _ (h.maps.dBound t i hi) rfl
  · obtain ⟨p, t⟩ := k
    exact h.core.below _ (h.maps.lBound p t i hi) rfl
  · obtain ⟨pat, ci⟩ := k
    obtain ⟨i, rfl, hb⟩ := h.maps.mBound pat ci j hj
    exact h.core.below _ hb rfl

theorem Inv.hasPort {m : Manager} (h : Inv m) {p : OpenPort} (hp : m.HasPort p) :
    (∃ b ∈ m.vars, b.binds = ⟨.port, p.port⟩) ∧ Binding.mutex p.mutex ∈ m.vars := by
  rcases hp with hp | ⟨f, hp⟩
  · exact ⟨⟨_, (h.maps.defBound p hp).1, rfl⟩, (h.maps.defBound p hp).2⟩
  · exact ⟨⟨_, (h.maps.fBound f p hp).1, rfl⟩, (h.maps.fBound f p hp).2⟩

theorem Grows.inv {m m' : Manager} (g : Grows m m') (h : Inv m) : Inv m' := by
  have hsub : ∀ {e : List Binding} b, b ∈ m.vars → b ∈ m.vars ++ e := fun b hb => List.mem_append_left _ hb
  have noUses : ∀ u ∈ ([] : List GName), u ∈ m.vars.map Binding.binds := fun _ hu => nomatch hu
  cases g with
  | matcher pat ci hg =>
    refine ⟨h.core.snoc (.matcher m.varIndex pat ci) (m.varIndex + 2) rfl (Nat.le_succ _) (Nat.lt_succ_self _) noUses, ?_⟩
    refine { h.maps.ext_vars _ (m.varIndex + 2) hsub with mKeys := ?_, mVals := ?_, mBound := ?_ }
    · exact nodup_keys_snoc h.maps.mKeys (assocGet_none hg)
    · exact nodup_vals_snoc h.maps.mVals fun k j hkj => Nat.lt_succ_of_lt ((vals_lt h).2.2 k j hkj)
    · intro pat' ci' j hj
      rcases List.mem_append.mp hj with hj | hj
      · obtain ⟨i, rfl, hb⟩ := h.maps.mBound pat' ci' j hj
        exact ⟨i, rfl, hsub _ hb⟩
      · cases List.mem_singleton.mp hj
        exact ⟨m.varIndex, rfl, List.mem_append_right _ (List.mem_singleton_self _)⟩
  | defaultPort _ hg =>
    refine ⟨?_, ?_⟩
    · have c1 := h.core.snoc (.stdoutPort m.varIndex) (m.varIndex + 1) rfl (Nat.le_refl _) (Nat.lt_succ_self _) noUses
      have c2 := c1.snoc (.mutex (m.varIndex + 1)) (m.varIndex + 2) rfl (Nat.le_refl _) (Nat.lt_succ_self _)
        fun _ hu => nomatch hu
      simpa using c2
    · refine { h.maps.ext_vars _ (m.varIndex + 2) hsub with defBound := ?_ }
      intro p hp
      cases hp
      simp
  | filePort f _ hg =>
    refine ⟨?_, ?_⟩
    · have c1 := h.core.snoc (.filePort m.varIndex f) (m.varIndex + 1) rfl (Nat.le_refl _) (Nat.lt_succ_self _) noUses
      have c2 := c1.snoc (.mutex (m.varIndex + 1)) (m.varIndex + 2) rfl (Nat.le_refl _) (Nat.lt_succ_self _)
        fun _ hu => nomatch hu
      simpa using c2
    · refine { h.maps.ext_vars _ (m.varIndex + 2) hsub with fKeys := ?_, fBound := ?_ }
      · exact nodup_keys_snoc h.maps.fKeys (assocGet_none hg)
      · intro f' p hp
        rcases List.mem_append.mp hp with hp | hp
        · exact ⟨hsub _ (h.maps.fBound f' p hp).1, hsub _ (h.maps.fBound f' p hp).2⟩
        · cases List.mem_singleton.mp hp
          simp
  | printerL p t _ hp hg =>
    obtain ⟨⟨b, hb, hbb⟩, hmx⟩ := h.hasPort hp
    refine ⟨h.core.snoc (.printerL m.varIndex p.port p.mutex t) (m.varIndex + 1) rfl (Nat.le_refl _) (Nat.lt_succ_self _) ?_, ?_⟩
    · intro u hu
      rcases List.mem_cons.mp hu with rfl | hu
      · exact List.mem_map.mpr ⟨b, hb, hbb⟩
      · cases List.mem_singleton.mp hu
        exact List.mem_map.mpr ⟨_, hmx, rfl⟩
    · refine { h.maps.ext_vars _ (m.varIndex + 1) hsub with lKeys := ?_, lVals := ?_, lBound := ?_ }
      · exact nodup_keys_snoc h.maps.lKeys (assocGet_none hg)
      · exact nodup_vals_snoc h.maps.lVals (vals_lt h).2.1
      · intro p' t' i hi
        rcases List.mem_append.mp hi with hi | hi
        · exact hsub _ (h.maps.lBound p' t' i hi)
        · cases List.mem_singleton.mp hi
          exact List.mem_append_right _ (List.mem_singleton_self _)
  | printerD t hd hg =>
    refine ⟨h.core.snoc (.printerD m.varIndex) (m.varIndex + 1) rfl (Nat.le_refl _) (Nat.lt_succ_self _) ?_, ?_⟩
    · intro u hu
      cases List.mem_singleton.mp hu
      exact List.mem_map.mpr ⟨.frame, h.maps.frameBound hd, rfl⟩
    · refine { h.maps.ext_vars _ (m.varIndex + 1) hsub with dKeys := ?_, dVals := ?_, dBound := ?_ }
      · exact nodup_keys_snoc h.maps.dKeys (assocGet_none hg)
      · exact nodup_vals_snoc h.maps.dVals (vals_lt h).1
      · intro t' i hi
        rcases List.mem_append.mp hi with hi | hi
        · exact hsub _ (h.maps.dBound t' i hi)
        · cases List.mem_singleton.mp hi
          exact List.mem_append_right _ (List.mem_singleton_self _)

theorem Grows.step {m m' : Manager} (g : Grows m m') (h : Inv m) : Step m m' := by
  have hi := g.inv h
  cases g <;>
    exact ⟨hi, ⟨_, rfl⟩, rfl, by simp, fun x hx => by simp [hx], fun x hx => by simp [hx], fun x hx => by simp [hx]⟩

/-- `Step m` as a predicate of the later state: what is kept by the five growth steps, hence (`*_keeps`,
    `Emits.keeps`) by every operation and by code generation from `m`. -/
theorem Step.keeps {m : Manager} : Grows.Keeps (Step m) := fun _ _ g h => h.trans (g.step h.inv)

end FV

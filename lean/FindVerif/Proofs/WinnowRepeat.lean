import FindVerif.Proofs.WinnowBasic
/-
  The three fuel loops (`repeatFold`, `repeatTillLoop`, `separatedLoop`).  For each: an invariant
  rule for its successes (whatever is kept by one round holds at the exit), panic-freedom when
  the fuel covers the input and every round consumes, and the unrolling equations; for the first two
  independence of fuel and profile under the same conditions, for `separatedLoop` of the profile.
  Bounded panic-freedom (`NoPanicOn`) is what the climber's nesting fuel needs.
-/
namespace FV
namespace W
variable {ι α β γ : Type}

def NoPanicOn (k : Nat) (p : P ι α) : Prop := ∀ i, i.length ≤ k → ∀ s, p i ≠ .panic s

theorem NoPanic.on {p : P ι α} (h : NoPanic p) (k : Nat) : NoPanicOn k p := fun i _ s => h i s

theorem NoPanicOn.mono {p : P ι α} {k k' : Nat} (h : NoPanicOn k p) (hk : k' ≤ k) : NoPanicOn k' p :=
  fun i hi s => h i (Nat.le_trans hi hk) s

theorem noPanicOn_alt2 {p q : P ι α} {k} (hp : NoPanicOn k p) (hq : NoPanicOn k q) :
    NoPanicOn k (alt2 p q) :=
  fun i hi s h => (alt2_cases h).elim (hp i hi s) (hq i hi s)

theorem noPanicOn_pair_consume {p : P ι α} {q : P ι β} {k} (hp : NoPanicOn (k + 1) p) (hc : Consumes p)
    (hq : NoPanicOn k q) : NoPanicOn (k + 1) (pair p q) := by
  intro i hi s h
  rcases pair_panic.1 h with h1 | ⟨a, r1, h1, h2⟩
  · exact hp i hi s h1
  · exact hq r1 (by have := hc i a r1 h1; omega) s h2

theorem assertFail_ne_ok {pf : Profile} {i : List ι} {a : α} {r} : (assertFail pf i : Res ι α) ≠ .ok a r := by
  cases pf <;> exact fun h => nomatch h

theorem repeatFold_inv {p : P ι α} {g : β → α → β} (I : β → List ι → Prop) (pf : Profile)
    (hstep : ∀ acc i a r, I acc i → p i = .ok a r → I (g acc a) r) :
    ∀ {fuel : Nat} {acc : β} {i : List ι} {res : β} {r : List ι},
      repeatFold pf p g fuel acc i = .ok res r → I acc i → I res r ∧ Bt p r := by
  intro fuel
  induction fuel with
  | zero => intro acc i res r h; cases h
  | succ n ih =>
    intro acc i res r h hI
    simp only [repeatFold] at h
    split at h
    · cases h; exact ⟨hI, _, _, ‹_›⟩
    · cases h
    · cases h
    · split at h
      · exact absurd h assertFail_ne_ok
      · exact ih h (hstep _ _ _ _ hI ‹_›)

theorem repeatFold_sound {p : P ι α} {B : List ι → α → Prop} {L : List ι → β → Prop} {g : β → α → β}
    (pf : Profile) (hp : Sound p B)
    (hstep : ∀ pre0 acc pre a, L pre0 acc → B pre a → L (pre0 ++ pre) (g acc a))
    (fuel : Nat) (acc : β) (i : List ι) (res : β) (r : List ι) (pre0 : List ι)
    (h : repeatFold pf p g fuel acc i = .ok res r) (hL : L pre0 acc) :
    ∃ pre, i = pre ++ r ∧ L (pre0 ++ pre) res := by
  refine (repeatFold_inv (fun acc j => ∃ pre, i = pre ++ j ∧ L (pre0 ++ pre) acc) pf ?_
    h ⟨[], by simp, by simpa using hL⟩).1
  rintro acc j a r ⟨pre, rfl, hl⟩ hj
  obtain ⟨pre1, rfl, hb⟩ := hp j a r hj
  exact ⟨pre ++ pre1, by simp, by simpa using hstep _ _ _ _ hl hb⟩

theorem repeatFold_noPanic {p : P ι α} {g : β → α → β} {k : Nat} (pf : Profile)
    (hn : NoPanicOn k p) (hc : Consumes p) :
    ∀ (fuel : Nat) (acc : β) (i : List ι), i.length ≤ k → i.length < fuel →
      ∀ s, repeatFold pf p g fuel acc i ≠ .panic s := by
  intro fuel
  induction fuel with
  | zero => intro acc i _ hf; omega
  | succ n ih =>
    intro acc i hk hf s h
    simp only [repeatFold] at h
    split at h
    · cases h
    · cases h
    · cases h; exact hn i hk _ ‹_›
    · have hlt := hc i _ _ ‹_›
      split at h
      · omega
      · exact ih _ _ (by omega) (by omega) s h

/-- The loop guard never fires, and every round uses up one unit of fuel and at least one of input. -/
theorem repeatFold_stable {p : P ι α} {g : β → α → β} (pf pf' : Profile) (hc : Consumes p) :
    ∀ {n m : Nat} {acc : β} {i : List ι}, i.length < n → i.length < m →
      repeatFold pf p g n acc i = repeatFold pf' p g m acc i
  | 0, _, _, _, hn, _ => absurd hn (Nat.not_lt_zero _)
  | _, 0, _, _, _, hm => absurd hm (Nat.not_lt_zero _)
  | n + 1, m + 1, acc, i, hn, hm => by
    simp only [repeatFold]
    cases h1 : p i with
    | ok a r1 =>
      have hlt := hc i a r1 h1
      simp only [Nat.ne_of_lt hlt, if_false]
      exact repeatFold_stable pf pf' hc (by omega) (by omega)
    | err k c r => cases k <;> rfl
    | panic s => rfl

theorem repeatFold_step {p : P ι α} {g : β → α → β} (pf : Profile) (n : Nat) (acc : β) (i : List ι)
    (a : α) (r : List ι) (h : p i = .ok a r) (hlt : r.length < i.length) :
    repeatFold pf p g (n + 1) acc i = repeatFold pf p g n (g acc a) r := by
  simp only [repeatFold, h]
  have : r.length ≠ i.length := by omega
  simp [this]

theorem repeatFold_stop {p : P ι α} {g : β → α → β} (pf : Profile) (n : Nat) (acc : β) {i : List ι} (h : Bt p i) :
    repeatFold pf p g (n + 1) acc i = .ok acc i := by
  obtain ⟨c, r, h⟩ := h
  simp only [repeatFold, h]

theorem repeatTillLoop_inv {f : P ι α} {g : P ι β} (I : List α → List ι → Prop) (pf : Profile)
    (hstep : ∀ acc i a r, I acc i → f i = .ok a r → I (a :: acc) r) :
    ∀ {fuel : Nat} {acc : List α} {i : List ι} {xs : List α} {b : β} {r : List ι},
      repeatTillLoop pf f g fuel acc i = .ok (xs, b) r → I acc i →
      ∃ acc' j, I acc' j ∧ xs = acc'.reverse ∧ g j = .ok b r := by
  intro fuel
  induction fuel with
  | zero => intro acc i xs b r h; cases h
  | succ n ih =>
    intro acc i xs b r h hI
    simp only [repeatTillLoop] at h
    split at h
    · cases h; exact ⟨acc, i, hI, rfl, ‹_›⟩
    · cases h
    · cases h
    · split at h
      · cases h
      · cases h
      · split at h
        · exact absurd h assertFail_ne_ok
        · exact ih h (hstep _ _ _ _ hI ‹_›)

theorem repeatTillLoop_noPanic {f : P ι α} {g : P ι β} {k : Nat} (pf : Profile)
    (hf : NoPanicOn k f) (hg : NoPanicOn k g) (hc : Consumes f) :
    ∀ (fuel : Nat) (acc : List α) (i : List ι), i.length ≤ k → i.length < fuel →
      ∀ s, repeatTillLoop pf f g fuel acc i ≠ .panic s := by
  intro fuel
  induction fuel with
  | zero => intro acc i _ h; omega
  | succ n ih =>
    intro acc i hk hfu s h
    simp only [repeatTillLoop] at h
    split at h
    · cases h
    · cases h
    · cases h; exact hg i hk _ ‹_›
    · split at h
      · cases h
      · cases h; exact hf i hk _ ‹_›
      · have := hc i _ _ ‹_›
        split at h
        · omega
        · exact ih _ _ (by omega) (by omega) s h

theorem repeatTillLoop_acc {f : P ι α} {g : P ι β} (pf : Profile) (fuel : Nat) (acc : List α) (i : List ι)
    (xs : List α) (b : β) (r : List ι) (h : repeatTillLoop pf f g fuel acc i = .ok (xs, b) r) :
    ∃ ys, xs = acc.reverse ++ ys := by
  obtain ⟨acc', _, ⟨ys, hys⟩, rfl, _⟩ :=
    repeatTillLoop_inv (fun acc' _ => ∃ ys, acc'.reverse = acc.reverse ++ ys) pf
      (by rintro acc' _ a _ ⟨ys, h⟩ _; exact ⟨ys ++ [a], by simp [h]⟩) h ⟨[], by simp⟩
  exact ⟨ys, hys⟩

theorem repeatTillLoop_stable {f : P ι α} {g : P ι β} (pf pf' : Profile) (hc : Consumes f) :
    ∀ {n m : Nat} {acc : List α} {i : List ι}, i.length < n → i.length < m →
      repeatTillLoop pf f g n acc i = repeatTillLoop pf' f g m acc i
  | 0, _, _, _, hn, _ => absurd hn (Nat.not_lt_zero _)
  | _, 0, _, _, _, hm => absurd hm (Nat.not_lt_zero _)
  | n + 1, m + 1, acc, i, hn, hm => by
    simp only [repeatTillLoop]
    cases g i with
    | ok b r => rfl
    | panic s => rfl
    | err k c r =>
      cases k with
      | true => rfl
      | false =>
        simp only
        cases h1 : f i with
        | err k2 c2 r2 => rfl
        | panic s => rfl
        | ok a r1 =>
          have hlt := hc i a r1 h1
          simp only [Nat.ne_of_lt hlt, if_false]
          exact repeatTillLoop_stable pf pf' hc (by omega) (by omega)

theorem repeatTillLoop_step {f : P ι α} {g : P ι β} (pf : Profile) {n : Nat} {acc : List α} {i r : List ι} {a : α}
    (hg : Bt g i) (hf : f i = .ok a r) (hlt : r.length < i.length) :
    repeatTillLoop pf f g (n + 1) acc i = repeatTillLoop pf f g n (a :: acc) r := by
  obtain ⟨c, r', hg⟩ := hg
  simp [repeatTillLoop, hg, hf, Nat.ne_of_lt hlt]

theorem repeatTillLoop_stop {f : P ι α} {g : P ι β} (pf : Profile) (n : Nat) (acc : List α) {i r : List ι} {b : β}
    (h : g i = .ok b r) : repeatTillLoop pf f g (n + 1) acc i = .ok (acc.reverse, b) r := by
  simp only [repeatTillLoop, h]

theorem repeatTillLoop_err {f : P ι α} {g : P ι β} (pf : Profile) (n : Nat) (acc : List α) {i r : List ι} {k c}
    (hg : Bt g i) (h : f i = .err k c r) : repeatTillLoop pf f g (n + 1) acc i = .err k c r := by
  obtain ⟨c', r', hg⟩ := hg
  simp only [repeatTillLoop, hg, h]

theorem repeatTill1_first {pf : Profile} {f : P ι α} {g : P ι β} {i r : List ι} {a : α} (h : f i = .ok a r) :
    repeatTill1 pf f g i = repeatTillLoop pf f g (r.length + 1) [a] r := by
  simp only [repeatTill1, h]

theorem repeatTill1_err {pf : Profile} {f : P ι α} {g : P ι β} {i r : List ι} {k c} (h : f i = .err k c r) :
    repeatTill1 pf f g i = .err k c r := by
  simp only [repeatTill1, h]

theorem repeatTill1_ok {pf : Profile} {f : P ι α} {g : P ι β} {i : List ι} {xb r} : repeatTill1 pf f g i = .ok xb r ↔
    ∃ a r1, f i = .ok a r1 ∧ repeatTillLoop pf f g (r1.length + 1) [a] r1 = .ok xb r := by
  unfold repeatTill1; grind

theorem repeatTill1_panic {pf : Profile} {f : P ι α} {g : P ι β} {i : List ι} {s} : repeatTill1 pf f g i = .panic s ↔
    f i = .panic s ∨ ∃ a r1, f i = .ok a r1 ∧ repeatTillLoop pf f g (r1.length + 1) [a] r1 = .panic s := by
  unfold repeatTill1; grind

theorem separatedLoop_inv {p : P ι α} {sep : P ι γ} (I : List α → List ι → Prop) (pf : Profile)
    (hstep : ∀ acc i x r1 a r2, I acc i → sep i = .ok x r1 → p r1 = .ok a r2 → I (a :: acc) r2) :
    ∀ {fuel : Nat} {acc : List α} {i : List ι} {xs : List α} {r : List ι},
      separatedLoop pf p sep fuel acc i = .ok xs r → I acc i → ∃ acc', I acc' r ∧ xs = acc'.reverse := by
  intro fuel
  induction fuel with
  | zero => intro acc i xs r h; cases h
  | succ n ih =>
    intro acc i xs r h hI
    simp only [separatedLoop] at h
    split at h
    · cases h; exact ⟨acc, hI, rfl⟩
    · cases h
    · cases h
    · split at h
      · exact absurd h assertFail_ne_ok
      · split at h
        · cases h; exact ⟨acc, hI, rfl⟩
        · cases h
        · cases h
        · exact ih h (hstep _ _ _ _ _ _ hI ‹_› ‹_›)

theorem separatedLoop_noPanic {p : P ι α} {sep : P ι γ} (pf : Profile) (hp : NoPanic p) (hpn : NonInc p)
    (hs : NoPanic sep) (hsc : Consumes sep) :
    ∀ (fuel : Nat) (acc : List α) (i : List ι), i.length < fuel →
      ∀ s, separatedLoop pf p sep fuel acc i ≠ .panic s := by
  intro fuel
  induction fuel with
  | zero => intro acc i h; omega
  | succ n ih =>
    intro acc i hfu s h
    simp only [separatedLoop] at h
    split at h
    · cases h
    · cases h
    · cases h; exact hs i _ ‹_›
    · have hlt := hsc i _ _ ‹_›
      split at h
      · omega
      · split at h
        · cases h
        · cases h
        · cases h; exact hp _ _ ‹_›
        · have := hpn _ _ _ ‹_›
          exact ih _ _ (by omega) s h

theorem separatedLoop_stop {p : P ι α} {sep : P ι γ} (pf : Profile) (n : Nat) (acc : List α) {i : List ι}
    (h : Bt sep i) : separatedLoop pf p sep (n + 1) acc i = .ok acc.reverse i := by
  obtain ⟨c, r, h⟩ := h
  simp only [separatedLoop, h]

theorem separatedLoop_step {p : P ι α} {sep : P ι γ} (pf : Profile) (n : Nat) (acc : List α) {i r1 r2 : List ι}
    {x : γ} {a : α} (hs : sep i = .ok x r1) (hlt : r1.length < i.length) (hp : p r1 = .ok a r2) :
    separatedLoop pf p sep (n + 1) acc i = separatedLoop pf p sep n (a :: acc) r2 := by
  simp only [separatedLoop, hs, Nat.ne_of_lt hlt, if_false, hp]

theorem separatedLoop_profile {p : P ι α} {sep : P ι γ} (hs : Consumes sep) :
    ∀ (fuel : Nat) (acc : List α) (i : List ι),
      separatedLoop .debug p sep fuel acc i = separatedLoop .release p sep fuel acc i
  | 0, _, _ => rfl
  | n + 1, acc, i => by
    simp only [separatedLoop]
    cases h1 : sep i with
    | err k c r => cases k <;> rfl
    | panic s => rfl
    | ok x r1 =>
      have hlt := hs i x r1 h1
      simp only [Nat.ne_of_lt hlt, if_false]
      cases p r1 with
      | err k c r => cases k <;> rfl
      | panic s => rfl
      | ok a r2 => exact separatedLoop_profile hs n _ _

theorem separated1_ok {pf : Profile} {p : P ι α} {sep : P ι γ} {i : List ι} {xs r} : separated1 pf p sep i = .ok xs r ↔
    ∃ a r1, p i = .ok a r1 ∧ separatedLoop pf p sep (r1.length + 1) [a] r1 = .ok xs r := by
  unfold separated1; grind

theorem separated1_panic {pf : Profile} {p : P ι α} {sep : P ι γ} {i : List ι} {s} : separated1 pf p sep i = .panic s ↔
    p i = .panic s ∨ ∃ a r1, p i = .ok a r1 ∧ separatedLoop pf p sep (r1.length + 1) [a] r1 = .panic s := by
  unfold separated1; grind

theorem repeat0_forall {p : P ι α} {Q : α → Prop} {pf : Profile} (hp : ∀ i a r, p i = .ok a r → Q a)
    {i l r} (h : repeat0 pf p i = .ok l r) : ∀ a ∈ l, Q a := by
  obtain ⟨acc, hr, rfl⟩ := map_ok.1 h
  simpa using (repeatFold_inv (fun acc _ => ∀ a ∈ acc, Q a) pf
    (fun _ j a r hI ha x hx => (List.mem_cons.1 hx).elim (· ▸ hp j a r ha) (hI x)) hr (by simp)).1

theorem repeatTill1_forall {f : P ι α} {g : P ι β} {Q : α → Prop} {pf : Profile} (hf : ∀ i a r, f i = .ok a r → Q a)
    {i xb r} (h : repeatTill1 pf f g i = .ok xb r) : ∀ a ∈ xb.1, Q a := by
  obtain ⟨a, r1, h1, h⟩ := repeatTill1_ok.1 h
  obtain ⟨acc, _, hI, e, _⟩ := repeatTillLoop_inv (xs := xb.1) (b := xb.2) (fun acc _ => ∀ a ∈ acc, Q a) pf
    (fun _ j a r hI ha x hx => (List.mem_cons.1 hx).elim (· ▸ hf j a r ha) (hI x)) h
    (by simpa using hf i a r1 h1)
  simpa [e] using hI

theorem repeat0_profile {p : P ι α} (h : Consumes p) : repeat0 .debug p = repeat0 .release p := by
  funext i
  simp only [repeat0, map]
  rw [repeatFold_stable .debug .release h (Nat.lt_succ_self _) (Nat.lt_succ_self _)]

theorem repeatTill0_profile {f : P ι α} {g : P ι β} (h : Consumes f) :
    repeatTill0 .debug f g = repeatTill0 .release f g := by
  funext i
  exact repeatTillLoop_stable .debug .release h (Nat.lt_succ_self _) (Nat.lt_succ_self _)

theorem repeatTill1_profile {f : P ι α} {g : P ι β} (h : Consumes f) :
    repeatTill1 .debug f g = repeatTill1 .release f g := by
  funext i
  simp only [repeatTill1]
  cases f i with
  | ok a r => exact repeatTillLoop_stable .debug .release h (Nat.lt_succ_self _) (Nat.lt_succ_self _)
  | err k c r => rfl
  | panic s => rfl

theorem separated1_profile {p : P ι α} {sep : P ι γ} (hs : Consumes sep) :
    separated1 .debug p sep = separated1 .release p sep := by
  funext i
  simp only [separated1]
  cases p i with
  | ok a r => exact separatedLoop_profile hs _ _ _
  | err k c r => rfl
  | panic s => rfl

end W
end FV

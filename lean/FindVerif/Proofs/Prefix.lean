import FindVerif.Model.Text
/- `isPrefix` is the prefix relation of lists (`isPrefix_iff`); what the lexer proofs need about a word
   against `kw ++ tail` is read off the library's lemmas about `<+:`. -/
namespace FV

theorem containsChar_mem {s : List Char} {c : Char} (h : containsChar s c = true) : c ∈ s := by
  simpa [containsChar] using h

theorem isPrefix_iff : ∀ {w i : Text}, isPrefix w i = true ↔ w <+: i
  | [], _ => by simp [isPrefix]
  | _ :: _, [] => by simp [isPrefix]
  | a :: w, b :: i => by simp [isPrefix, List.cons_prefix_cons, isPrefix_iff (w := w) (i := i)]

theorem isPrefix_false_iff {w i : Text} : isPrefix w i = false ↔ ¬ w <+: i := by
  rw [← isPrefix_iff, Bool.not_eq_true]

theorem isPrefix_append (w tail : Text) : isPrefix w (w ++ tail) = true :=
  isPrefix_iff.2 (List.prefix_append w tail)

theorem isPrefix_eq_append {w i : Text} (h : isPrefix w i = true) : i = w ++ i.drop w.length :=
  (List.prefix_iff_eq_append.1 (isPrefix_iff.1 h)).symm

theorem isPrefix_single_false {c : Char} {i : Text} (h : ∀ cs, i ≠ c :: cs) : isPrefix [c] i = false :=
  isPrefix_false_iff.2 fun ⟨t, e⟩ => h t e.symm

theorem not_prefix_of_append (w kw tail : Text) (h1 : isPrefix w kw = false) (h2 : isPrefix kw w = false) :
    isPrefix w (kw ++ tail) = false :=
  isPrefix_false_iff.2 fun h => (List.prefix_or_prefix_of_prefix h (List.prefix_append kw tail)).elim
    (isPrefix_false_iff.1 h1) (isPrefix_false_iff.1 h2)

theorem not_prefix_of_length_le {w kw : Text} (tail : Text) (h : isPrefix w kw = false)
    (hl : w.length ≤ kw.length) : isPrefix w (kw ++ tail) = false :=
  isPrefix_false_iff.2 fun hp =>
    isPrefix_false_iff.1 h (List.prefix_of_prefix_length_le hp (List.prefix_append kw tail) hl)

end FV

import FindVerif.Gen.Parser
/-
  The static tie (DESIGN.md §0.7).  `Gen/Parser.lean` is produced on every run by `tools/rs2lean.py`
  from the current `src/find_parser/*.rs`: one Lean combinator per winnow combinator, in source order.
  Each definition there is proved *equal* to the definition of the hand-written model (the one all
  property theorems are about): for the lexer and all argument readers the model is the translation of
  what the source says now, up to the translator and the combinator semantics of `Model/Winnow.lean`.
  The winnow combinators themselves, the nesting fuel of `FV.atom` and `FV.climb`, and the fold of
  `FV.dispatch` have no generated counterpart; `Gen.parse` takes `FV.climb`, `FV.dispatch` and
  `RunOptions.update` as they are (`parserTop`, `atom_step`, `TieTables.dispatchDecision` and
  `TieTables.runOptionsUpdate` tie their parts separately).

  Where the two differ in shape (the source nests `alt` because winnow's tuples are bounded; the
  model keeps tables as data; two `map`s in a row) the equality goes through the small lemmas below,
  everything else is `rfl`.

  A trap: each theorem bears the name of the function it ties, so inside this namespace `parseString`,
  `token`, … are the theorems (that is what `rw [parseString]` means); the functions are written
  `Gen.parseString` and `FV.parseString`.
-/
namespace FV.Tie
open FV FV.W

theorem map_mapOrPanic {ι α β γ : Type} (site : Text) (f : α → Option β) (g : β → γ) (p : P ι α) :
    map g (mapOrPanic site f p) = mapOrPanic site (fun a => (f a).map g) p := by
  funext i
  simp only [map, mapOrPanic]
  cases p i with
  | ok a rest => cases hf : f a <;> simp [Option.map, hf]
  | err k c rest => simp
  | panic s => simp

theorem octalEscape_eq :
    (fun a => Option.map FormatSpecial.ascii (if octVal a < 65536 then some (octVal a) else none)) = octalEscape := by
  funext a
  unfold octalEscape
  split <;> rfl

/-! ### prelude.rs -/

theorem parseU32 : Gen.parseU32 = FV.parseU32 := rfl
theorem parseU64 : Gen.parseU64 = FV.parseU64 := rfl

theorem wordChar : (fun c : Char => !(decide (c = ' ') || decide (c = '\t') || decide (c = '\r') || decide (c = '\n') || decide (c = ')')))
    = isWordChar := by
  funext c
  simp only [isWordChar, isBlank, Bool.not_or, ne_eq, decide_not, Bool.and_assoc]

theorem quoteDelimiter : Gen.quoteDelimiter = FV.quoteDelimiter := by
  unfold Gen.quoteDelimiter FV.quoteDelimiter
  rw [wordChar]

theorem parseString : Gen.parseString = FV.parseString := by
  unfold Gen.parseString FV.parseString
  rw [quoteDelimiter]

/-! ### mod.rs: macros and the comparison form -/

theorem unary {α β : Type} : @Gen.unary α β = @FV.unary α β := rfl
theorem binary {α β γ : Type} : @Gen.binary α β γ = @FV.binary α β γ := rfl
theorem compFormat {α : Type} : @Gen.compFormat α = @FV.compFormat α := rfl
theorem parseComparison {α : Type} : @Gen.parseComparison α = @FV.compFormat α := rfl

/-! ### size.rs, timespec.rs, filetype.rs -/

theorem parseSize : Gen.parseSize = FV.parseSize := rfl
theorem parseTime : Gen.parseTime = FV.parseTime := rfl
theorem parseMinDefault : Gen.parseMinDefault = FV.parseTime TimeSpec.minute := rfl
theorem parseDayDefault : Gen.parseDayDefault = FV.parseTime TimeSpec.day := rfl
theorem timeMin : Gen.compFormat Gen.parseMinDefault = FV.timeMin := rfl
theorem timeDay : Gen.compFormat Gen.parseDayDefault = FV.timeDay := rfl
theorem parseFileType : Gen.parseFileType = FV.parseFileType := rfl
theorem parseFileTypes : Gen.parseFileTypes = FV.parseFileTypes := rfl

/-! ### permission.rs -/

theorem octSet : containsChar (cl!"01234567") = isOct := by
  funext c
  rw [Bool.eq_iff_iff]
  simp only [containsChar, isOct, List.any_cons, List.any_nil, Bool.or_false, Bool.or_eq_true, Bool.and_eq_true,
    decide_eq_true_eq, ← Char.toNat_inj, Char.le_def, UInt32.le_iff_toNat_le]
  show (48 = c.toNat ∨ 49 = c.toNat ∨ 50 = c.toNat ∨ 51 = c.toNat ∨ 52 = c.toNat ∨ 53 = c.toNat ∨ 54 = c.toNat ∨ 55 = c.toNat)
    ↔ 48 ≤ c.toNat ∧ c.toNat ≤ 55
  constructor
  · rintro (h | h | h | h | h | h | h | h) <;> rw [← h] <;> decide
  · intro h; omega

theorem parsePartial : Gen.parsePartial = FV.parsePartial := rfl

theorem parsePermission : Gen.parsePermission = FV.parsePermission := by
  funext pf
  unfold Gen.parsePermission FV.parsePermission
  rw [octSet, parsePartial]
  rfl

theorem parsePermCheck : Gen.parsePermCheck = FV.parsePermCheck := by
  funext pf
  unfold Gen.parsePermCheck FV.parsePermCheck
  rw [parsePermission]

/-! ### format.rs -/

theorem parseSpecial : Gen.parseSpecial = FV.parseSpecial := by
  unfold Gen.parseSpecial FV.parseSpecial
  rw [map_mapOrPanic, octSet, octalEscape_eq]

theorem parseField : Gen.parseField = FV.parseField := by
  unfold Gen.parseField FV.parseField
  rw [Gen.altNested_flat _ (by simp) (by simp)]
  rfl

theorem parseFormat : Gen.parseFormat = FV.parseFormat := by
  funext pf
  unfold Gen.parseFormat FV.parseFormat
  rw [parseField, parseSpecial]
  rfl

/-! ### mod.rs: keyword tables, `token`, `lex` -/

theorem unsupportedOptionArg : Gen.unsupportedOptionArg = FV.unsupportedOptionArg := rfl
theorem parseGlobal : Gen.parseGlobal = FV.parseGlobal := rfl
theorem parsePositional : Gen.parsePositional = FV.parsePositional := rfl

theorem parseAction : Gen.parseAction = FV.parseAction := by
  funext pf
  unfold Gen.parseAction FV.parseAction
  rw [parseString, quoteDelimiter, parseFormat]
  rfl

theorem parseTest : Gen.parseTest = FV.parseTest := by
  funext pf
  unfold Gen.parseTest FV.parseTest
  rw [parseString, quoteDelimiter, parsePermCheck, parseFileTypes, timeMin, timeDay]
  rw [Gen.altNested_flat _ (by simp) (by simp)]
  rfl

theorem token : Gen.token = FV.token := by
  funext pf
  unfold Gen.token FV.token
  rw [parseTest, parseAction, parseGlobal, parsePositional]

theorem lex : Gen.lex = FV.lex := by
  funext pf
  unfold Gen.lex FV.lex
  rw [token]

/-! ### precedence.rs (token level).  The source functions are mutually recursive; the translation
    passes the `atom` parser as a parameter (open recursion) and the model closes the knot with
    nesting fuel: one unfolding of the model's `atom` is the translated `atom` body. -/

theorem andLevel : Gen.andLevel = FV.andLevel := rfl
theorem orLevel : Gen.orLevel = FV.orLevel := rfl
theorem listLevel : Gen.listLevel = FV.listLevel := rfl
theorem notP : Gen.notP = FV.notP := rfl
theorem parensP (pf : Profile) (atom : P Token Expr) :
    Gen.parensP pf atom = FV.parensP (FV.listLevel pf atom) := rfl

theorem atom_step (pf : Profile) (n : Nat) : FV.atom pf (n + 1) = Gen.atomStep pf (FV.atom pf n) := by
  -- the two sides differ in the functions on tokens of the first alternative only (`primExpr`, `isPrimTok`
  -- against the translated `match`es), and those agree constructor by constructor
  have h1 : ∀ (f g : Token → Option Expr) (p q : Token → Bool), f = g → p = q →
      ∀ rest, alt (mapOrPanic (cl!"precedence.rs:unreachable") f (oneOf p) :: rest)
            = alt (mapOrPanic (cl!"precedence.rs:unreachable") g (oneOf q) :: rest) := by
    intro f g p q hf hp rest; rw [hf, hp]
  unfold Gen.atomStep
  rw [FV.atom]
  apply h1
  · funext t; cases t <;> rfl
  · funext t; cases t <;> rfl

/-- `parser`, over the model's `atom` at fuel `n`. -/
theorem parserTop (pf : Profile) (n : Nat) : FV.climbWith pf n = Gen.parserTop pf (FV.atom pf n) := rfl

/-! ### `_parse` and `parse`: the entry point -/

theorem updAll_eq (leading : P Char (List GlobalOption)) (emptyTokens : List Token) (replacement : Token)
    (lexer : P Char (List Token)) (climber : List Token → Res Token Expr) (disp : List Ctx → Text → ParseError)
    (o : RunOptions) (gs : List GlobalOption) :
    Gen.parseWith.updAll RunOptions.update o gs = FV.updateAll o gs := by
  induction gs generalizing o with
  | nil => rfl
  | cons g gs ih =>
    simp only [Gen.parseWith.updAll, FV.updateAll]
    cases o.update g with
    | none => rfl
    | some o' => exact ih o'

theorem sweep_eq (o : RunOptions) (ts : List Token) :
    Gen.parseWith.sweep (Token.test Test.true_) RunOptions.update o ts = FV.sweepGlobals o ts := by
  induction ts generalizing o with
  | nil => rfl
  | cons t ts ih =>
    cases t with
    | global g =>
      simp only [Gen.parseWith.sweep, FV.sweepGlobals]
      cases o.update g with
      | none => rfl
      | some o' => simp only [ih]
    | _ => simp only [Gen.parseWith.sweep, FV.sweepGlobals, ih]

theorem leadingGlobals : Gen.leadingGlobals = FV.leadingGlobals := by
  funext pf
  unfold Gen.leadingGlobals FV.leadingGlobals
  rw [parseGlobal]

/-- `Gen.parse`: the statement skeleton of `_parse`/`parse` with the translated leading-options parser,
    lexer and `-true` tokens. -/
theorem parse : Gen.parse = FV.parse := by
  funext pf input
  unfold Gen.parse FV.parse Gen.parseWith
  rw [leadingGlobals, lex]
  simp only [updAll_eq (FV.leadingGlobals pf) [Token.test Test.true_] (Token.test Test.true_) (FV.lex pf) (FV.climb pf) FV.dispatch, sweep_eq]
  rfl

end FV.Tie

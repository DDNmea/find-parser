import FindVerif.Model.Lex.Token
import FindVerif.Model.Precedence
import FindVerif.Model.Parse
import FindVerif.Model.Compile
/-
  Hand-written support for the generated files (tools/rs2lean.py): for `Gen/Parser.lean` the nesting
  of `alt` and the statement skeleton of the entry point (`parseWith`), for `Gen/Tables.lean` the
  statement skeleton of the format-list generator (`formatSkeleton`).
  winnow implements `alt` for tuples of bounded length, so the source nests
  `alt((alt((a, b, …)), alt((c, d, …)), e))`.  `altNested` is exactly that nesting (a non-`alt`
  member is a one-element group: `alt [e] = e` by definition); `altNested_flat` shows it is the flat
  alternative list the model uses.
-/
namespace FV.Gen
open FV FV.W

def altNested {ι α : Type} (groups : List (List (P ι α))) : P ι α := alt (groups.map alt)

theorem alt2_assoc {ι α : Type} (p q r : P ι α) : alt2 (alt2 p q) r = alt2 p (alt2 q r) := by
  funext i
  unfold alt2
  cases hp : p i with
  | ok a rest => rfl
  | panic s => rfl
  | err k c rest =>
    cases k with
    | true => rfl
    | false =>
      cases hq : q i with
      | ok a rest => simp
      | panic s => simp
      | err k' c' rest' => cases k' <;> simp

theorem alt_cons_append {ι α : Type} (p : P ι α) (ps : List (P ι α)) (q : P ι α) (qs : List (P ι α)) :
    alt ((p :: ps) ++ (q :: qs)) = alt2 (alt (p :: ps)) (alt (q :: qs)) := by
  induction ps generalizing p with
  | nil => rfl
  | cons p' ps ih =>
    show alt2 p (alt ((p' :: ps) ++ (q :: qs))) = alt2 (alt2 p (alt (p' :: ps))) (alt (q :: qs))
    rw [ih, alt2_assoc]

theorem alt_append {ι α : Type} (l1 l2 : List (P ι α)) (h1 : l1 ≠ []) (h2 : l2 ≠ []) :
    alt (l1 ++ l2) = alt2 (alt l1) (alt l2) := by
  cases l1 with
  | nil => exact absurd rfl h1
  | cons p ps =>
    cases l2 with
    | nil => exact absurd rfl h2
    | cons q qs => exact alt_cons_append p ps q qs

theorem altNested_flat {ι α : Type} : ∀ (groups : List (List (P ι α))),
    (∀ g ∈ groups, g ≠ []) → groups ≠ [] → altNested groups = alt groups.flatten
  | [], _, h => absurd rfl h
  | [g], _, _ => by simp [altNested, alt]
  | g :: g' :: gs, hne, _ => by
    have ih := altNested_flat (g' :: gs) (fun x hx => hne x (List.mem_cons_of_mem _ hx)) (by simp)
    have hg : g ≠ [] := hne g (by simp)
    have hg' : g' ≠ [] := hne g' (by simp)
    have hfl : (g' :: gs).flatten ≠ [] := by
      cases g' with
      | nil => exact absurd rfl hg'
      | cons a as => simp
    show alt (alt g :: (g' :: gs).map alt) = alt (g ++ (g' :: gs).flatten)
    rw [alt_append g _ hg hfl, ← ih]
    rfl

end FV.Gen

namespace FV.Gen
open FV FV.W

/-- The statement skeleton of `_parse` + `parse` (`src/find_parser/mod.rs`) with its variable parts as
    parameters; it is the model's `FV.parse` with those parts abstracted (`Tie.parse`).  Which input
    position each failure hands to `dispatch` is winnow's `&mut input` discipline and is part of the
    model, not of the translation. -/
def parseWith (leading : P Char (List GlobalOption)) (emptyTokens : List Token) (replacement : Token)
    (lexer : P Char (List Token)) (update : RunOptions → GlobalOption → Option RunOptions)
    (climber : List Token → Res Token Expr) (disp : List Ctx → Text → ParseError)
    (input : Text) : ParseOut :=
  let rec updAll (o : RunOptions) : List GlobalOption → Option RunOptions
    | [] => some o
    | g :: gs => match update o g with
      | some o' => updAll o' gs
      | none => none
  let rec sweep : RunOptions → List Token → Option (RunOptions × List Token)
    | o, [] => some (o, [])
    | o, .global g :: ts =>
      match update o g with
      | some o' => (sweep o' ts).map fun x => (x.1, replacement :: x.2)
      | none => none
    | o, t :: ts => (sweep o ts).map fun x => (x.1, t :: x.2)
  match leading input with
  | .panic s => .panic s
  | .err _ ctx rest => .error (disp ctx rest)
  | .ok gs rest =>
    match updAll {} gs with
    | none => .panic (cl!"lib.rs:unreachable")
    | some globals =>
      let lexed : Res Char (List Token) := if rest.isEmpty then .ok emptyTokens [] else lexer rest
      match lexed with
      | .panic s => .panic s
      | .err _ ctx rest' => .error (disp ctx rest')
      | .ok tokens rest' =>
        match sweep globals tokens with
        | none => .panic (cl!"lib.rs:unreachable")
        | some (globals', tokens') =>
          match climber tokens' with
          | .panic s => .panic s
          | .err _ ctx _ => .error (disp ctx rest')
          | .ok e _ => .ok globals' e

end FV.Gen

namespace FV.Gen
open FV

/-- One element of a format rendered for the template: the function applied to each kind of element is a
    parameter; the error payloads of a refused element are the model's (`Debug` renderings). -/
def skelElement (litF : Text → Text) (fieldF : FormatField → Option Text) (specialF : FormatSpecial → Option Text) :
    FormatElement → Except CompileError Text
  | .literal s => .ok (litF s)
  | .field f => match fieldF f with
    | some t => .ok t
    | none => .error (.unsupportedFormat f.debugName)
  | .special v => match specialF v with
    | some t => .ok t
    | none => .error (.unsupportedFormat (cl!"Clear"))

/-- `.map(..).collect::<CResult<Vec<String>>>()`: the first error wins. -/
def skelCollect (el : FormatElement → Except CompileError Text) : List FormatElement → Except CompileError (List Text)
  | [] => .ok []
  | e :: rest => match el e with
    | .error x => .error x
    | .ok t => match skelCollect el rest with
      | .error x => .error x
      | .ok ts => .ok (t :: ts)

/-- `.filter_map(..)` over the fields: the argument of each field that has one, in parentheses. -/
def skelItems (itemF : FormatField → Option Text) (es : List FormatElement) : List Text :=
  es.filterMap fun e => match e with
    | .field f => match itemF f with
      | some b => if b.isEmpty then none else some (cl!"(" ++ b ++ cl!")")
      | none => none
    | _ => none

/-- The statement skeleton of `impl TargetScheme for Vec<FormatElement>` with its variable parts as parameters. -/
def formatSkeleton (litF : Text → Text) (fieldF : FormatField → Option Text) (specialF : FormatSpecial → Option Text)
    (itemF : FormatField → Option Text) (tsep isep : Text) (fin : Text → Text → Text)
    (es : List FormatElement) : Except CompileError Text :=
  match skelCollect (skelElement litF fieldF specialF) es with
  | .error x => .error x
  | .ok ts => .ok (fin (joinWith tsep ts) (joinWith isep (skelItems itemF es)))

end FV.Gen

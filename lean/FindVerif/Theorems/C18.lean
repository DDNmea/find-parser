import FindVerif.Proofs.Dispatch
import FindVerif.Proofs.LexSeq
import FindVerif.Proofs.ParseTotal
import FindVerif.Driver.Obs
/-
  C18 — argument errors name the offending primary and word.
  A token that fails behind any readable sequence of tokens makes `parse` return `dispatch` of that
  token's contexts at its failure position (`parse_token_error`).  For a keyword of any of the three
  tables whose argument reader fails, or whose argument is missing at the end of the input, those
  contexts are the reader's own under the keyword and its category (`Keyword.parse_arg_error`,
  `Keyword.parse_missing`), and `dispatch_test` / `dispatch_action` (Proofs/Dispatch.lean) read the
  error value off them: it carries the keyword, the word found where the reader left the input (the
  empty word for a missing argument) and the reader's innermost description.  For options the last
  step is not taken here: `dispatch_global` is stated, its use through `parse` is not.
-/
namespace FV
open W

theorem parse_lex_error {pf : Profile} {s : Text} {gs : List GlobalOption} {rest : Text} {k : Bool} {c : List Ctx} {r' : Text}
    (h1 : leadingGlobals pf s = .ok gs rest) (hne : rest ≠ []) (h2 : lex pf rest = .err k c r') :
    parse pf s = .error (dispatch c r') := by
  have hre : rest.isEmpty = false := by cases rest <;> simp_all
  simp [parse_eq, h1, hre, h2]

theorem parse_token_error {pf : Profile} {s : Text} {gs : List GlobalOption} {rest : Text} {pre : List Token} {r : Text}
    {k : Bool} {c : List Ctx} {r' : Text} (h1 : leadingGlobals pf s = .ok gs rest)
    (hpre : LexPrefix pf (rest.dropWhile isBlank) pre r) (hr : r ≠ []) (herr : token pf r = .err k c r') :
    parse pf s = .error (dispatch c r') :=
  parse_lex_error h1 (fun he => hr (LexPrefix.eq_nil_of_nil (he ▸ hpre))) (lex_error_at hpre (.inl hr) herr)

/-- Benign contexts of the numeric / size / time / type / permission / string readers. -/
theorem benign_of_labels (cp : List Ctx)
    (h : ∀ l, Ctx.label l ∈ cp → l = cl!"comparison" ∨ l = cl!"size" ∨ l = cl!"timespec" ∨ l = cl!"permission" ∨
      l = cl!"permission_comparison") : Benign cp := by
  intro l hl
  rcases h l hl with rfl | rfl | rfl | rfl | rfl <;> decide

namespace Keyword
variable {τ α : Type} {pf : Profile} {mk : τ → Token} {cat kw : Text} {tr : α → τ} {argp : P Char α}
  {s : Text} {gs : List GlobalOption} {rest : Text} {pre : List Token}

theorem parse_arg_error (K : Keyword pf mk cat kw (unary kw tr argp)) {ws x : Text} {k : Bool} {cp : List Ctx} {rr : Text}
    (h1 : leadingGlobals pf s = .ok gs rest) (hpre : LexPrefix pf (rest.dropWhile isBlank) pre (kw ++ (ws ++ x)))
    (hb : BlankRun ws x) (harg : argp x = .err k cp rr) :
    parse pf s = .error (dispatch (cp ++ [label kw, label cat, label (cl!"syntax")]) rr) := by
  have htok := K.token_unary hb
  rw [harg] at htok
  exact parse_token_error h1 hpre (List.append_ne_nil_of_left_ne_nil K.ne_nil _) htok

theorem parse_missing (K : Keyword pf mk cat kw (unary kw tr argp))
    (h1 : leadingGlobals pf s = .ok gs rest) (hpre : LexPrefix pf (rest.dropWhile isBlank) pre kw) :
    parse pf s = .error (dispatch [label kw, label cat, label (cl!"syntax")] []) :=
  parse_token_error h1 hpre K.ne_nil K.token_missing

end Keyword

/-- A test whose argument reader fails: the error names the test and quotes the word at the
    reader's failure position — wherever the primary stands. -/
theorem C18_test_arg {α : Type} (pf : Profile) (s : Text) (gs : List GlobalOption) (rest : Text)
    (pre : List Token) (kw : Text) (tr : α → Test) (argp : P Char α) (ws x : Text)
    (h1 : leadingGlobals pf s = .ok gs rest)
    (hpre : LexPrefix pf (rest.dropWhile isBlank) pre (kw ++ (ws ++ x)))
    (hm : (kw, unary kw tr argp) ∈ testAlts pf) (hb : BlankRun ws x)
    (k : Bool) (cp : List Ctx) (rr : Text) (harg : argp x = .err k cp rr) (hben : Benign cp) :
    parse pf s = .error (match innerDescription cp with
      | some d => .invalidTestArgument kw (nextWord rr) (explain d)
      | none => .invalidTestUnknown kw (nextWord rr)) := by
  have K := keyword_test hm
  exact (K.parse_arg_error h1 hpre hb harg).trans (congrArg _ (dispatch_test cp kw rr hben K.ne_nil K.ne_category.1))

theorem C18_action_arg {α : Type} (pf : Profile) (s : Text) (gs : List GlobalOption) (rest : Text)
    (pre : List Token) (kw : Text) (tr : α → Action) (argp : P Char α) (ws x : Text)
    (h1 : leadingGlobals pf s = .ok gs rest)
    (hpre : LexPrefix pf (rest.dropWhile isBlank) pre (kw ++ (ws ++ x)))
    (hm : (kw, unary kw tr argp) ∈ actionAlts pf) (hb : BlankRun ws x)
    (k : Bool) (cp : List Ctx) (rr : Text) (harg : argp x = .err k cp rr) (hben : Benign cp) :
    parse pf s = .error (match innerDescription cp with
      | some d => .invalidActionArgument kw (nextWord rr) (explain d)
      | none => .invalidActionUnknown kw (nextWord rr)) := by
  have K := keyword_action hm
  exact (K.parse_arg_error h1 hpre hb harg).trans
    (congrArg _ (dispatch_action cp kw rr hben K.ne_nil K.ne_category.1 K.ne_category.2.1))

/-- A missing argument (the keyword stands at the end of the input): the error names the keyword
    and quotes the empty word. -/
theorem C18_missing_test {α : Type} (pf : Profile) (s : Text) (gs : List GlobalOption) (rest : Text)
    (pre : List Token) (kw : Text) (tr : α → Test) (argp : P Char α)
    (h1 : leadingGlobals pf s = .ok gs rest)
    (hpre : LexPrefix pf (rest.dropWhile isBlank) pre kw)
    (hm : (kw, unary kw tr argp) ∈ testAlts pf) :
    parse pf s = .error (.invalidTestUnknown kw []) := by
  have K := keyword_test hm
  exact (K.parse_missing h1 hpre).trans (congrArg _ (dispatch_test [] kw [] .nil K.ne_nil K.ne_category.1))

theorem C18_missing_action {α : Type} (pf : Profile) (s : Text) (gs : List GlobalOption) (rest : Text)
    (pre : List Token) (kw : Text) (tr : α → Action) (argp : P Char α)
    (h1 : leadingGlobals pf s = .ok gs rest)
    (hpre : LexPrefix pf (rest.dropWhile isBlank) pre kw)
    (hm : (kw, unary kw tr argp) ∈ actionAlts pf) :
    parse pf s = .error (.invalidActionUnknown kw []) := by
  have K := keyword_action hm
  exact (K.parse_missing h1 hpre).trans
    (congrArg _ (dispatch_action [] kw [] .nil K.ne_nil K.ne_category.1 K.ne_category.2.1))

/-- A word at which no token starts: it is quoted (bare, or with its quotes stripped). -/
theorem C18_unknown (pf : Profile) (s : Text) (gs : List GlobalOption) (rest : Text) (pre : List Token) (r : Text)
    (h1 : leadingGlobals pf s = .ok gs rest) (hne : rest ≠ [])
    (hpre : LexPrefix pf (rest.dropWhile isBlank) pre r) (hr : r ≠ [] ∨ pre = [])
    (htok : token pf r = .err false [expected (cl!"invalid_token"), label (cl!"syntax")] r) :
    parse pf s = .error (.invalidToken (nextWord r)) := by
  rw [parse_lex_error h1 hne (lex_error_at hpre hr htok), dispatch_unknown]

/-- The message names the keyword and quotes the word (five of the seven shapes; the two with a
    description under an action or option keyword are built like the first).  This is
    `ParseError.display` (Driver/Obs.lean) written out: that it is the crate's `Display` rests on the
    correspondence run alone. -/
theorem C18_text (kw w d : Text) :
    (ParseError.invalidTestArgument kw w d).display =
      cl!"Syntax error: Failed to parse argument `" ++ w ++ cl!"` of test `" ++ kw ++ cl!"`: " ++ d ∧
    (ParseError.invalidTestUnknown kw w).display =
      cl!"Syntax error: Failed to parse argument `" ++ w ++ cl!"` of test `" ++ kw ++ cl!"`" ∧
    (ParseError.invalidActionUnknown kw w).display =
      cl!"Syntax error: Failed to parse argument `" ++ w ++ cl!"` of action `" ++ kw ++ cl!"`" ∧
    (ParseError.invalidGlobalUnknown kw w).display =
      cl!"Syntax error: Failed to parse argument `" ++ w ++ cl!"` of global option `" ++ kw ++ cl!"`" ∧
    (ParseError.invalidToken w).display = cl!"Syntax error: Unexpected token: `" ++ w ++ cl!"`" :=
  ⟨rfl, rfl, rfl, rfl, rfl⟩

example : parse .debug (cl!"-print -uid @5 -empty") =
    .error (.invalidTestArgument (cl!"-uid") (cl!"@5") (cl!"Expected an unsigned integer")) := by decide +kernel
example : parse .debug (cl!"-true -fprint") = .error (.invalidActionUnknown (cl!"-fprint") []) := by decide +kernel
example : parse .release (cl!"-name x \"bogus\" -print") = .error (.invalidToken (cl!"bogus")) := by decide +kernel
example : parse .release (cl!"-threads") = .error (.invalidGlobalUnknown (cl!"-threads") []) := by decide +kernel

end FV

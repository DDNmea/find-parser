import FindVerif.Proofs.CompileInv
/-
  C11 — generated identifiers: bound once, before use, never captured; resources shared exactly
  per request.  Statements are about the manager record of the model (Model/Manager.lean, whose
  bindings are kept structured; `Binding.render` is the text the Rust code pushes and the
  correspondence check compares it byte for byte) after any run of code generation, i.e. any
  number of matchers and printers in any first-occurrence order.
-/
namespace FV

/-- The two initial managers and every state reachable from them by code generation. -/
inductive Reachable : Manager → Prop
  | localInit : Reachable Manager.localInit
  | distInit : Reachable Manager.distInit
  | step {clk e st txt st'} : Reachable st.mgr → compileExpr clk e st = .ok (txt, st') → Reachable st'.mgr

theorem reachable_inv {m} (h : Reachable m) : Inv m := by
  induction h with
  | localInit => exact Inv.localInit
  | distInit => exact Inv.distInit
  | step _ hc ih => exact (compileExpr_step _ _ _ _ _ ih hc).inv

/-- Each generated name is bound exactly once: the texts of the bound names are pairwise distinct. -/
theorem C11_bound_once {m} (h : Reachable m) : (m.vars.map fun b => b.binds.text).Nodup := by
  have := (reachable_inv h).core.nodup
  have hmap : (m.vars.map fun b => b.binds.text) = (m.vars.map Binding.binds).map GName.text := by simp
  rw [hmap]
  exact List.Pairwise.map GName.text (fun a b hab h => hab (GName.text_injective a b h)) this

/-- Every use of a generated name in an initialiser refers to a binding that precedes it. -/
theorem C11_before_use {m} (h : Reachable m) (pre : List Binding) (b : Binding) (post : List Binding)
    (hs : m.vars = pre ++ b :: post) : ∀ u ∈ b.uses, u ∈ pre.map Binding.binds :=
  (reachable_inv h).core.usesBound pre b post hs

/-- The name returned for a name/path test is bound to the matcher built for that very pattern and
    case-sensitivity, and stays so whatever is generated afterwards. -/
theorem C11_matcher_reach {m} (h : Reachable m) (pat : Text) (ci : Bool) :
    ∃ i, (m.getMatcher pat ci).1 = (GName.mk .match_ (i + 1)).text ∧
      ∀ m', Step (m.getMatcher pat ci).2 m' → Binding.matcher i pat ci ∈ m'.vars := by
  obtain ⟨_, i, hn, hb, _⟩ := getMatcher_spec m pat ci (reachable_inv h)
  exact ⟨i, hn, fun m' hs => hs.mem hb⟩

/-- Identical requests share one resource: asking again (at any later point) returns the same
    name and adds nothing. -/
theorem C11_matcher_share {m} (h : Reachable m) (pat : Text) (ci : Bool) (m' : Manager)
    (hs : Step (m.getMatcher pat ci).2 m') :
    m'.getMatcher pat ci = ((m.getMatcher pat ci).1, m') := by
  obtain ⟨_, i, hn, _, hmem⟩ := getMatcher_spec m pat ci (reachable_inv h)
  have hmem' := hs.keepM _ hmem
  have hget := assocGet_of_mem hs.inv.maps.mKeys hmem'
  have := registerMatch_hit m' pat ci (i + 1) hget
  rw [hn, GName.text_mk, Manager.getMatcher, this]
  rfl

/-- Different requests never share: two different (pattern, case) keys have different matchers. -/
theorem C11_matcher_distinct {m} (h : Reachable m) (k1 k2 : Text × Bool) (j1 j2 : Nat)
    (h1 : (k1, j1) ∈ m.matches_) (h2 : (k2, j2) ∈ m.matches_) (hne : k1 ≠ k2) : j1 ≠ j2 := by
  intro he
  subst he
  exact hne (Prod.mk.inj (nodup_map_inj (reachable_inv h).maps.mVals h1 h2 rfl)).1

/-- Printers: the name returned for a destination/terminator is bound to a printer for exactly
    that destination and terminator (plain mode: a `make-printer` over that port, its mutex and
    that terminator; framed mode: the frame printer whose tag the table maps to that target). -/
theorem C11_printer_reach {m} (h : Reachable m) (term : Option Char) :
    PrinterFor (m.getPrinter term).2 (m.getPrinter term).1 none term :=
  (request_spec m none term (reachable_inv h)).2

theorem C11_file_printer_reach {m} (h : Reachable m) (f : Text) (term : Option Char) :
    PrinterFor (m.getFilePrinter f term).2 (m.getFilePrinter f term).1 (some f) term :=
  (request_spec m (some f) term (reachable_inv h)).2

/-- Framed mode: what `C10_table_bijective` says of the reported table, on the manager's own. -/
theorem C11_printer_table {m} (h : Reachable m) :
    (m.printersD.map Prod.fst).Nodup ∧ (m.printersD.map Prod.snd).Nodup :=
  ⟨(reachable_inv h).maps.dKeys, (reachable_inv h).maps.dVals⟩

/-- Plain mode: one printer per (port, terminator), and different ones differ. -/
theorem C11_printer_plain {m} (h : Reachable m) :
    (m.printersL.map Prod.fst).Nodup ∧ (m.printersL.map Prod.snd).Nodup :=
  ⟨(reachable_inv h).maps.lKeys, (reachable_inv h).maps.lVals⟩

/-! `Reachable.step` on a concrete run (two name tests and a print).  The statement would also hold of a
    failing run, whose arm of the `match` is `Manager.localInit`; that this run succeeds is the `rfl` in
    the proof. -/
example : Reachable (compileExpr (fun _ => 0)
    (.and (.test (.name ['a'])) (.and (.test (.insensitiveName ['a'])) (.action .print))) { mgr := Manager.localInit }
      |> fun r => match r with | .ok (_, st) => st.mgr | _ => Manager.localInit) :=
  Reachable.step (clk := fun _ => 0) (st := { mgr := Manager.localInit })
    (e := .and (.test (.name ['a'])) (.and (.test (.insensitiveName ['a'])) (.action .print))) Reachable.localInit rfl

end FV

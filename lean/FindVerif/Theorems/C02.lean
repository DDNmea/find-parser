import FindVerif.Proofs.C02.Translation
/-
  C02 — the compiled policy means what the expression means (translation validity).

  For every tree `e`, clock reading, file record and choice of the opaque runtime functions: if the
  structured compiler produces a program, then running it in the runtime model — the `let*` bindings
  in order, then the policy body — gives exactly find's outcome for the tree (wrapped with the
  implicit print when it has no action, C09): the same truth value, the same outputs (destination,
  bytes, terminator) in the same order (in framed mode decoded through the destination table) and
  the same stop request; and it does not fail at run time.  "Defined" (the property's last sentence)
  is `evalFind ≠ undefined`: `%S` of an empty file has no meaning.

  Hypotheses: (1) the compile happened within one clock reading (`clk i = now`; C15 bounds the
  readings by the compile call); (2) every frame tag is a character (`tag < 0xD800`, i.e. fewer
  than 55296 generated names — `#\xD800` is not a character).

  `compileS` is the structured twin of the code generator (it emits S-expressions; Model/GenS.lean).
  It is tied to src/scheme/*.rs on every run: the implementation's text, read back with the Scheme
  reader, must equal `compileS` of the same tree (bindings, body, destination table), and the text
  generator model must agree byte for byte.  The runtime semantics (`Spec/Scheme/Eval.lean`) and
  find's rules (`Spec/Find.lean`) are the trusted reading of software outside the repository.
-/
namespace FV
open Scheme Spec

def TagsAreChars (ps : ProgramS) : Prop := ∀ kv ∈ ps.ioMap.getD [], kv.1 < 0xD800

theorem C02_translation_validity (rt : Rt) (file : File) (clk : Nat → Nat) (now : Nat) (e : Expr) (ps : ProgramS)
    (hclk : ∀ i, clk i = now) (hc : compileS clk e = .ok ps) (htags : TagsAreChars ps)
    (hdef : evalFind rt now (policyTree e) file ≠ .undefined) :
    runPolicy rt file ps.ioMap ps.bindings ps.body = .outcome (evalFind rt now (policyTree e) file) := by
  rw [compileS_eq] at hc
  obtain ⟨⟨body, st⟩, hgen, rfl⟩ := CRes.map_ok_iff.mp hc
  have hstep := genExpr_step clk _ _ st body (Inv.initialManager e) hgen
  exact (expr_sem hclk (.of_step rt file hstep htags) hgen (Inv.initialManager e) (Step.refl hstep.inv)).run
    (evalBindings_vars rt file hstep.inv.core) hdef

/-- The policy never fails at run time on a file for which the expression is defined. -/
theorem C02_never_fails (rt : Rt) (file : File) (clk : Nat → Nat) (now : Nat) (e : Expr) (ps : ProgramS)
    (hclk : ∀ i, clk i = now) (hc : compileS clk e = .ok ps) (htags : TagsAreChars ps)
    (hdef : evalFind rt now (policyTree e) file ≠ .undefined) :
    ∃ o, runPolicy rt file ps.ioMap ps.bindings ps.body = .outcome o :=
  ⟨_, C02_translation_validity rt file clk now e ps hclk hc htags hdef⟩

/-- The structured generator and the text generator make the same resource requests in the same
    order and fail on the same trees with the same error: their final states agree. -/
theorem C02_generators_agree (clk : Nat → Nat) (e : Expr) (st : CState) :
    (genExpr clk e st).state = (compileExpr clk e st).state :=
  genExpr_state clk e st

/-- Operators by find's rules: short-circuit AND / OR, negation, `,` as AND. -/
theorem C02_operators (rt : Rt) (now : Nat) (a b : Expr) (f : File) :
    evalFind rt now (.and a b) f = (evalFind rt now a f).andThen (evalFind rt now b f) ∧
    evalFind rt now (.list a b) f = (evalFind rt now a f).andThen (evalFind rt now b f) ∧
    evalFind rt now (.or a b) f = (evalFind rt now a f).orElse (evalFind rt now b f) ∧
    evalFind rt now (.not a) f = (evalFind rt now a f).negate := ⟨rfl, rfl, rfl, rfl⟩

/-- A framed program with a matcher (`-name foo -print0`) satisfies the hypotheses. -/
example : ∃ ps, compileS (fun _ => 7) (.and (.test (.name (cl!"foo"))) (.action .printNull)) = .ok ps ∧
    TagsAreChars ps ∧ ps.ioMap = some [(4, .stdout (some '\x00'))] := by
  refine ⟨_, rfl, ?_, rfl⟩
  unfold TagsAreChars
  decide

end FV

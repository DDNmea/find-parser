import FindVerif.Proofs.Escape
import FindVerif.Spec.Scheme.Analysis
/-
  C04 — emitted program is well-formed Scheme; user text stays data.
  For all strings (any characters, any length):
    * the one escaping function used at every interpolation site is inverted by the independent
      Scheme reader: the literal reads back as exactly the user's string and reading stops at the
      closing quote (`C04_literal_roundtrip`) — so a user string can never close its literal or
      open a form;
    * five interpolation sites written out: each emits exactly such a literal (`C04_site_*`, by
      unfolding the model; the two strings of `-xattr-match` and the name in `%{xattr:…}` are covered
      only by `C04_whole_program`);
    * in a template `~` is doubled, so the literal carries no directive and `format` prints exactly
      the user's text (`C04_template_verbatim`).
  That the whole emitted text reads back as two forms with the structure of the structured program
  is `C04_whole_program` in `Theorems/C04Whole.lean`.  The check establishes the same on the
  implementation's own output, by reading every emitted program of the stream with the independent
  reader and comparing its structure with that of a benign twin.
-/
namespace FV
open Scheme

theorem C04_literal_roundtrip (s rest : Text) :
    read1 1 ('"' :: schemeEscape s ++ '"' :: rest) = some (.str s, rest) :=
  read1_quoted (schemeEscape_escapesTo s) rest 0

/-- A corollary of the round trip.  That the literal cannot be closed early is
    `C04_literal_roundtrip`, not this. -/
theorem C04_escape_injective (s₁ s₂ : Text) (h : schemeEscape s₁ = schemeEscape s₂) : s₁ = s₂ := by
  have r1 := read1_quoted (schemeEscape_escapesTo s₁) [] 0
  rw [h, read1_quoted (schemeEscape_escapesTo s₂) [] 0] at r1
  simpa using r1.symm

theorem C04_site_pool (clk : Nat → Nat) (s : Text) (st : CState) :
    compileTest clk (.pool s) st = .ok (cl!"(member " ++ ('"' :: schemeEscape s ++ '"' :: cl!" (lov-pools))"), st) := by
  show CRes.ok (_, st) = .ok (_, st)
  simp only [List.append_assoc]; rfl

theorem C04_site_xattr (clk : Nat → Nat) (s : Text) (st : CState) :
    compileTest clk (.xattr s) st = .ok (cl!"(xattr? " ++ ('"' :: schemeEscape s ++ '"' :: cl!")"), st) := by
  show CRes.ok (_, st) = .ok (_, st)
  simp only [List.append_assoc]; rfl

theorem C04_site_matcher (i : Nat) (pat : Text) (ci : Bool) :
    ∃ pre post, (Binding.matcher i pat ci).render = pre ++ ('"' :: schemeEscape pat ++ '"' :: post) :=
  ⟨cl!"(" ++ lf3 (cl!"match") (i + 1) ++ cl!" (lambda (" ++ lf3 (cl!"str") i ++ cl!") (" ++ matcherName pat ci ++ cl!"? ",
   cl!" " ++ lf3 (cl!"str") i ++ cl!")))", by simp only [Binding.render, List.append_assoc]; rfl⟩

theorem C04_site_file (i : Nat) (f : Text) :
    ∃ pre post, (Binding.filePort i f).render = pre ++ ('"' :: schemeEscape f ++ '"' :: post) :=
  ⟨cl!"(" ++ lf3 (cl!"port") i ++ cl!" (open-file ", cl!" \"w\"))", by simp only [Binding.render, List.append_assoc]; rfl⟩

theorem C04_site_strftime (c : Char) (field : Text) (h : c ≠ '@') :
    strftimeSnippet c field = cl!"strftime " ++ ('"' :: '%' :: schemeEscape [c] ++ '"' :: (cl!" (localtime (" ++ field ++ cl!"))")) := by
  simp only [strftimeSnippet, h, if_false, List.append_assoc]; rfl

theorem replaceTilde_plain (s : Text) :
    formatPlain (replaceTilde s) = some s ∧ formatDirectives (replaceTilde s) = some 0 := by
  induction s with
  | nil => simp [replaceTilde, formatPlain, formatDirectives]
  | cons c cs ih =>
    by_cases hc : c = '~'
    · subst hc
      rw [replaceTilde_tilde]
      simp [formatPlain, formatDirectives, ih]
    · rw [replaceTilde_ne hc, formatPlain.eq_def, formatDirectives.eq_def]
      simp [hc, ih]

theorem C04_template_verbatim (s rest : Text) :
    ∃ decoded, read1 1 ('"' :: templateEscape s ++ '"' :: rest) = some (.str decoded, rest) ∧
      formatPlain decoded = some s ∧ formatDirectives decoded = some 0 :=
  ⟨replaceTilde s, read1_quoted (escapes_template s) rest 0, replaceTilde_plain s⟩

example : templateEscape (cl!"50% ~a \"x\"") = cl!"50% ~~a \\\"x\\\"" := by decide +kernel

end FV

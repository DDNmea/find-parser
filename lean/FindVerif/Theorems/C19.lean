import FindVerif.Spec.Actions
/-
  C19 — tree query helpers agree with the tree.  `Expr.hasAction` / `Expr.complexFrames` /
  `Size.mult` / `TimeSpec.secs` / `Size.byteSize` are the model of `ast.rs`; the right-hand sides
  are the declarative definitions of Spec/Actions.lean.  All trees, including shapes the parser
  never returns (explicit precedence nodes, nested lists, option nodes), no depth bound.
-/
namespace FV
open Spec

theorem C19_action (e : Expr) : e.hasAction = true ↔ ContainsAction e := by
  induction e with
  | test t | global g | positional p => simp [Expr.hasAction]; intro h; cases h
  | action a => simp [Expr.hasAction]; exact .here a
  | prec e ih => simp only [Expr.hasAction, ih]; exact ⟨.prec, fun h => by cases h; assumption⟩
  | not e ih => simp only [Expr.hasAction, ih]; exact ⟨.not, fun h => by cases h; assumption⟩
  | and a b iha ihb =>
    simp only [Expr.hasAction, Bool.or_eq_true, iha, ihb]
    exact ⟨fun h => h.elim .andL .andR, fun h => by cases h <;> simp [*]⟩
  | or a b iha ihb =>
    simp only [Expr.hasAction, Bool.or_eq_true, iha, ihb]
    exact ⟨fun h => h.elim .orL .orR, fun h => by cases h <;> simp [*]⟩
  | list a b iha ihb =>
    simp only [Expr.hasAction, Bool.or_eq_true, iha, ihb]
    exact ⟨fun h => h.elim .listL .listR, fun h => by cases h <;> simp [*]⟩

theorem printFormatted_frames (fmt : List FormatElement) :
    (Action.printFormatted fmt).complexFrames = true ↔ ∃ last, fmt.getLast? = some last ∧ last ≠ .special .newline := by
  simp only [Action.complexFrames]
  cases fmt.getLast? <;> simp

theorem action_frames (a : Action) : a.complexFrames = true ↔ actionNeedsFraming a := by
  unfold actionNeedsFraming writesToFile nulTerminated formatNotNewlineEnded
  cases a with
  | printFormatted fmt =>
    rw [printFormatted_frames]
    simp [destination, terminator]
  | _ => simp [Action.complexFrames, destination, terminator]

theorem C19_frames (e : Expr) : e.complexFrames = true ↔ NeedsFraming e := by
  induction e with
  | test t | global g | positional p => simp [Expr.complexFrames]; intro h; cases h
  | action a =>
    simp only [Expr.complexFrames, action_frames]
    exact ⟨.here, fun h => by cases h; assumption⟩
  | prec e ih => simp only [Expr.complexFrames, ih]; exact ⟨.prec, fun h => by cases h; assumption⟩
  | not e ih => simp only [Expr.complexFrames, ih]; exact ⟨.not, fun h => by cases h; assumption⟩
  | and a b iha ihb =>
    simp only [Expr.complexFrames, Bool.or_eq_true, iha, ihb]
    exact ⟨fun h => h.elim .andL .andR, fun h => by cases h <;> simp [*]⟩
  | or a b iha ihb =>
    simp only [Expr.complexFrames, Bool.or_eq_true, iha, ihb]
    exact ⟨fun h => h.elim .orL .orR, fun h => by cases h <;> simp [*]⟩
  | list a b iha ihb =>
    simp only [Expr.complexFrames, Bool.or_eq_true, iha, ihb]
    exact ⟨fun h => h.elim .listL .listR, fun h => by cases h <;> simp [*]⟩

/-- The size units are 1, 2, 512, 2^10, 2^20, 2^30, 2^40 bytes (for every count). -/
theorem C19_size_units (n : Nat) :
    [ (Size.byte n).mult, (Size.word n).mult, (Size.block n).mult, (Size.kilo n).mult,
      (Size.mega n).mult, (Size.giga n).mult, (Size.tera n).mult ] = sizeUnitBytes := rfl

/-- The time units are 1, 60, 3600, 86400 seconds. -/
theorem C19_time_units (n : Nat) :
    [ (TimeSpec.second n).secs, (TimeSpec.minute n).secs, (TimeSpec.hour n).secs,
      (TimeSpec.day n).secs ] = timeUnitSeconds := rfl

/-- The byte size is count × unit whenever that fits the 64-bit result, in both build profiles. -/
theorem C19_bytes (checks : Bool) (s : Size) (h : s.count * s.mult < 2 ^ 64) :
    s.byteSize checks = some (s.count * s.mult) := by
  simp [Size.byteSize, h]

example : ContainsAction (.or (.test .true_) (.not (.prec (.action .quit)))) :=
  .orR (.not (.prec (.here _)))
example : ¬ NeedsFraming (.action (.printFormatted [.literal ['a'], .special .newline])) := by
  rw [← C19_frames]; decide
example : NeedsFraming (.list (.global .depth) (.action (.printFormatted [.special .newline, .literal ['a']]))) := by
  rw [← C19_frames]; decide
example : (Size.tera 16777215).count * (Size.tera 16777215).mult < 2 ^ 64 := by decide +kernel

end FV

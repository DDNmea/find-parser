import FindVerif.Proofs.CompileInv
import FindVerif.Theorems.C19
/-
  C10 — output routing: mode choice and destination table.
  Statements about the model of `scheme::compile` and the managers, for every tree, clock and
  options.  `Spec.NeedsFraming` / `Spec.target` are the declarative readings of the property.
-/
namespace FV
open Spec

/-- Framed (distributed) output is selected exactly when some action writes to a file, terminates
    records with NUL, or prints a format not ending in a newline escape. -/
theorem C10_mode (clk : Nat → Nat) (e : Expr) (o : RunOptions) (c : Compiled) (h : compile clk e o = .ok c) :
    c.ioMap.isSome = true ↔ NeedsFraming e := by
  obtain ⟨body, st, hc, _, hm, _, _⟩ := compile_unfold clk e o c h
  have hstep := compileExpr_step clk _ _ st body (Inv.initialManager e) hc
  -- the mode never changes, and the table is reported exactly in framed mode
  rw [← C19_frames, hm, printerMap_isSome, hstep.mode, initialManager]
  cases e.complexFrames <;> rfl

theorem C10_plain (clk : Nat → Nat) (e : Expr) (o : RunOptions) (c : Compiled) (h : compile clk e o = .ok c)
    (hn : ¬ NeedsFraming e) : c.ioMap = none := by
  have := C10_mode clk e o c h
  cases hio : c.ioMap with
  | none => rfl
  | some m => rw [hio] at this; exact absurd (this.mp rfl) hn

/-- In framed mode the table is a bijection: equal (destination, terminator) pairs share one tag
    and different pairs never do. -/
theorem C10_table_bijective (clk : Nat → Nat) (e : Expr) (o : RunOptions) (c : Compiled) (h : compile clk e o = .ok c)
    (tbl : List (Nat × Target)) (ht : c.ioMap = some tbl) :
    (tbl.map Prod.fst).Nodup ∧ (tbl.map Prod.snd).Nodup := by
  obtain ⟨body, st, hc, _, hm, _, _⟩ := compile_unfold clk e o c h
  have hstep := compileExpr_step clk _ _ st body (Inv.initialManager e) hc
  rw [hm] at ht
  have hd : st.mgr.distributed = true := by rw [← printerMap_isSome, ht]; rfl
  cases (printerMap_of_dist hd).symm.trans ht
  rw [printerMap_tags, printerMap_targets]
  exact ⟨hstep.inv.maps.dVals, hstep.inv.maps.dKeys⟩

theorem Emits.registered {clk : Nat → Nat} {e : Expr} {st st' : CState} {txt : Text} (h : Emits clk e st txt st')
    (hinv : Inv st.mgr) (hd : st.mgr.distributed = true) :
    ∀ a ∈ actionsOf e, ∀ t, target a = some t → ∃ i, (t, i) ∈ st'.mgr.printersD := by
  induction h with
  | test _ => intro a ha; cases ha
  | action h =>
    intro a ha t ht
    obtain rfl := List.mem_singleton.mp ha
    rcases compileAction_ok h with ⟨hn, _⟩ | ⟨tg, htg, rfl⟩
    · rw [hn] at ht; cases ht
    · obtain rfl : tg = t := Option.some.inj (htg.symm.trans ht)
      rw [request_dist _ _ hd]
      exact ⟨_, registerPrinterD_mem _ _⟩
  | not _ ih => exact ih hinv hd
  | and ha hb iha ihb | list ha hb iha ihb | or ha hb iha ihb =>
    intro x hx t ht
    have s1 := ha.step hinv
    rcases List.mem_append.mp hx with hx | hx
    · obtain ⟨i, hi⟩ := iha hinv hd x hx t ht
      exact ⟨i, (hb.step s1.inv).keepD _ hi⟩
    · exact ihb s1.inv (s1.mode.trans hd) x hx t ht

/-- In framed mode each output action's (destination, terminator) pair is an entry of the
    destination table, wherever the action stands (under negation, in dead branches, right of OR
    or `,`). -/
theorem C10_actions_in_table (clk : Nat → Nat) (e : Expr) (o : RunOptions) (c : Compiled) (h : compile clk e o = .ok c)
    (hf : NeedsFraming e) : ∀ a ∈ actionsOf e, ∀ t, target a = some t →
      ∃ tbl i, c.ioMap = some tbl ∧ (i, t) ∈ tbl := by
  obtain ⟨body, st, hc, _, hm, _, _⟩ := compile_unfold clk e o c h
  have hinit : initialManager e = Manager.distInit := by simp [initialManager, (C19_frames e).mpr hf]
  rw [hinit] at hc
  have hstep := compileExpr_step clk _ _ st body Inv.distInit hc
  have hreg := (Emits.of_ok hc).registered Inv.distInit rfl
  intro a ha t ht
  have ha' : a ∈ actionsOf (policyTree e) := by
    unfold policyTree; split
    · simp [actionsOf, ha]
    · exact ha
  obtain ⟨i, hi⟩ := hreg a ha' t ht
  have hd : st.mgr.distributed = true := by rw [hstep.mode]; rfl
  exact ⟨_, i, hm.trans (printerMap_of_dist hd), List.mem_map.mpr ⟨(t, i), hi, rfl⟩⟩

example : NeedsFraming (.and (.test .true_) (.action (.filePrint ['o']))) := by rw [← C19_frames]; decide
example : ∃ c, compile (fun _ => 0) (.and (.test .true_) (.action (.filePrint ['o']))) {} = .ok c ∧
    c.ioMap = some [(2, .file ['o'] (some '\n'))] := ⟨_, rfl, rfl⟩

end FV

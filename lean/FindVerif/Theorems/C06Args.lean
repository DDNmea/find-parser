import FindVerif.Theorems.C06Layout
/-
  More spellings for the layout theorem (C06_layout): the argument readers for sizes and times
  (one reader, `countReader`), permission modes behind their three prefixes, type lists, and the
  two-argument keywords.
-/
namespace FV
open W Spec

/-- Of the unit letters only this is used: they are letters, and the unit table knows no others. -/
theorem argWrites_count {α : Type} {name site bad : Text} (unit : Char → Nat → Option α) (isUnit : Char → Bool)
    (dflt : Nat → α) (hletter : ∀ c, isUnit c = true → isAlpha c = true ∧ isDigit c = false)
    (hunit : ∀ c n, (unit c n).isSome → isUnit c = true)
    (ds : Text) (hne : ds ≠ []) (hd : ∀ c ∈ ds, isDigit c = true) (hb : decVal ds < 2 ^ 64) :
    (∀ u a, unit u (decVal ds) = some a →
      ArgWrites (countReader name site bad unit isUnit dflt) (fun _ => True) a (ds ++ [u])) ∧
    ArgWrites (countReader name site bad unit isUnit dflt) CountStop (dflt (decVal ds)) ds := by
  obtain ⟨c0, r0, hds, hb0, _, _⟩ := digits_head hne hd
  refine ⟨fun u a hu => ⟨⟨c0, r0 ++ [u], by simp [hds], hb0⟩, fun tail _ => ⟨tail, ?_, rfl⟩⟩,
          ⟨⟨c0, r0, hds, hb0⟩, fun tail ht => ⟨tail, countReader_bare (fun c hc => (hletter c hc).1) hne hd hb ht, rfl⟩⟩⟩
  have hiu := hunit u _ (by rw [hu]; rfl)
  rw [List.append_assoc]
  exact countReader_unit hne hd hb hiu (hletter u hiu).2 hu tail

/-- Sizes: a count with one of the unit letters `b c w k M G T` (then anything may follow), or a
    bare count (512-byte blocks) followed by the end or a non-alphanumeric character. -/
theorem argWrites_size (ds : Text) (hne : ds ≠ []) (hd : ∀ c ∈ ds, isDigit c = true) (hb : decVal ds < 2 ^ 64) :
    (∀ u s, sizeUnit u (decVal ds) = some s → ArgWrites parseSize (fun _ => True) s (ds ++ [u])) ∧
    ArgWrites parseSize CountStop (.block (decVal ds)) ds :=
  parseSize_eq ▸ argWrites_count sizeUnit isSizeUnit Size.block
    (fun c hc => (by decide : ∀ c ∈ cl!"bcwkMGT", isAlpha c = true ∧ isDigit c = false) c (containsChar_mem hc))
    (fun _ _ => sizeUnit_isSome.1) ds hne hd hb

/-- Times: as for sizes, with the unit letters `s m h d` and the primary's default unit. -/
theorem argWrites_time (dflt : Nat → TimeSpec) (ds : Text) (hne : ds ≠ []) (hd : ∀ c ∈ ds, isDigit c = true)
    (hb : decVal ds < 2 ^ 64) :
    (∀ u t, timeUnit u (decVal ds) = some t → ArgWrites (parseTime dflt) (fun _ => True) t (ds ++ [u])) ∧
    ArgWrites (parseTime dflt) CountStop (dflt (decVal ds)) ds :=
  parseTime_eq dflt ▸ argWrites_count timeUnit isTimeUnit dflt
    (fun c hc => (by decide : ∀ c ∈ cl!"smhd", isAlpha c = true ∧ isDigit c = false) c (containsChar_mem hc))
    (fun _ _ => timeUnit_isSome.1) ds hne hd hb

theorem argWrites_permArg (pf : Profile) (c : Char) (t : Text) (k : PermCheck) (hw : ∀ x ∈ c :: t, isWordChar x = true)
    (hq : c ≠ '"' ∧ c ≠ '\'') (hk : parsePermCheck pf (c :: t) = .ok k []) :
    ArgWrites (permArg pf) WordStop k (c :: t) := by
  refine ⟨⟨c, t, rfl, wordChar_not_blank (hw c (List.mem_cons_self ..))⟩, fun tail ht => ⟨tail, ?_, rfl⟩⟩
  have := quoteDelimiter_bare (c :: t) tail (List.cons_ne_nil _ _) hw (fun x r h => by injection h with h1 _; exact h1 ▸ hq) ht
  exact andThen_of_ok this (map_of_ok (pair_of_ok hk eof_nil))

theorem argWrites_perm (pf : Profile) (c0 : Char) (t0 : Text) (m : Nat) (hperm : parsePermission pf (c0 :: t0) = .ok m [])
    (hw : ∀ c ∈ c0 :: t0, isWordChar c = true) (hq : c0 ≠ '"' ∧ c0 ≠ '\'') (hp : c0 ≠ '/' ∧ c0 ≠ '-') :
    ArgWrites (permArg pf) WordStop (.equal m) (c0 :: t0) ∧
    ArgWrites (permArg pf) WordStop (.any m) ('/' :: c0 :: t0) ∧
    ArgWrites (permArg pf) WordStop (.atLeast m) ('-' :: c0 :: t0) := by
  obtain ⟨hany, hatl, heq⟩ := parsePermCheck_prefix pf (c0 :: t0) [] m hperm
  have hw' : ∀ d, isWordChar d = true → ∀ x ∈ d :: c0 :: t0, isWordChar x = true :=
    fun d hd x hx => (List.mem_cons.mp hx).elim (fun h => h ▸ hd) (hw x)
  exact ⟨argWrites_permArg pf c0 t0 _ hw hq (heq c0 t0 rfl hp.1 hp.2),
    argWrites_permArg pf '/' _ _ (hw' '/' rfl) (by decide) hany,
    argWrites_permArg pf '-' _ _ (hw' '-' rfl) (by decide) hatl⟩

/-- Octal permission modes, bare: three or more octal digits denoting a mode, with the prefix
    `/` (any), `-` (at least) or none (equal), up to a blank, `)` or the end. -/
theorem argWrites_perm_octal (pf : Profile) (ds : Text) (h3 : 3 ≤ ds.length) (ho : ∀ c ∈ ds, isOct c = true)
    (hm : octVal ds < 4096) :
    ArgWrites (permArg pf) WordStop (.equal (octVal ds)) ds ∧
    ArgWrites (permArg pf) WordStop (.any (octVal ds)) ('/' :: ds) ∧
    ArgWrites (permArg pf) WordStop (.atLeast (octVal ds)) ('-' :: ds) := by
  -- an octal digit is none of the characters that are not octal digits
  have ne : ∀ {c}, isOct c = true → ∀ d, isOct d = false → c ≠ d := fun hc d hd he => by rw [he, hd] at hc; cases hc
  have word : ∀ c, isOct c = true → isWordChar c = true := fun c hc => by
    simp [isWordChar, isBlank, ne hc ' ' rfl, ne hc '\t' rfl, ne hc '\r' rfl, ne hc '\n' rfl, ne hc ')' rfl]
  obtain ⟨c0, r0, rfl⟩ : ∃ c0 r0, ds = c0 :: r0 := by
    cases ds with | nil => simp at h3 | cons c r => exact ⟨c, r, rfl⟩
  have hc0 := ho c0 (List.mem_cons_self ..)
  exact argWrites_perm pf c0 r0 _ (parsePermission_octal pf _ h3 ho hm) (fun c hc => word c (ho c hc))
    ⟨ne hc0 '"' rfl, ne hc0 '\'' rfl⟩ ⟨ne hc0 '/' rfl, ne hc0 '-' rfl⟩

theorem argWrites_context {α : Type} (c : Ctx) (p : P Char α) (ok : Text → Prop) (v : α) (a : Text)
    (h : ArgWrites p ok v a) : ArgWrites (context c p) ok v a := by
  refine ⟨h.1, fun tail ht => ?_⟩
  obtain ⟨r, hr, hd⟩ := h.2 tail ht
  exact ⟨r, by simp [context, hr], hd⟩

theorem argExact_word (s : Text) (hne : s ≠ []) :
    ((∀ c ∈ s, isWordChar c = true) → (∀ c r, s = c :: r → c ≠ '"' ∧ c ≠ '\'') → ArgExact parseString s s) ∧
    ((∀ c ∈ s, c ≠ '\'') → ArgExact parseString s ('\'' :: (s ++ [('\'')]))) ∧
    ((∀ c ∈ s, c ≠ '"') → ArgExact parseString s ('"' :: (s ++ ['"']))) := by
  obtain ⟨hb, hsq, hdq⟩ := argWrites_word s hne
  have stop : ∀ tail, (∃ c r, tail = c :: r ∧ isBlank c = true) → WordStop tail :=
    fun tail ht => nil_or_head_imp (fun c hc => by simp [isWordChar, hc]) (.inr ht)
  exact ⟨fun h1 h2 => ⟨(hb h1 h2).1, fun tail ht => (C05_word_styles s tail hne).2.2 h1 h2 (stop tail ht)⟩,
    fun h => ⟨(hsq h).1, fun tail _ => by rw [quoted_append]; exact (C05_word_styles s tail hne).2.1 h⟩,
    fun h => ⟨(hdq h).1, fun tail _ => by rw [quoted_append]; exact (C05_word_styles s tail hne).1 h⟩⟩

theorem argExact_context {α : Type} (c : Ctx) (p : P Char α) (v : α) (a : Text) (h : ArgExact p v a) :
    ArgExact (context c p) v a :=
  ⟨h.1, fun tail ht => by simp [context, h.2 tail ht]⟩

/-- Every two-argument test keyword (`-xattr-match NAME VALUE`): keyword, blanks, first argument,
    blanks, second argument — any non-empty blank runs, any spelling of each argument. -/
theorem writes_test_binary {α β : Type} (pf : Profile) (kw : Text) (tr : α × β → Test) (l : P Char α) (r : P Char β)
    (args : Text) (hm : (kw, binary kw tr l r args) ∈ testAlts pf) (ws1 a1 ws2 a2 : Text) (ok : Text → Prop)
    (v1 : α) (v2 : β) (hn1 : ws1 ≠ []) (hw1 : ∀ c ∈ ws1, isBlank c = true) (hn2 : ws2 ≠ [])
    (hw2 : ∀ c ∈ ws2, isBlank c = true) (h1 : ArgExact l v1 a1) (h2 : ArgWrites r ok v2 a2) :
    Writes pf ok (.test (tr (v1, v2))) (kw ++ (ws1 ++ (a1 ++ (ws2 ++ a2)))) :=
  (keyword_test hm).writes_binary hn1 hw1 hn2 hw2 h1 h2

/-- Every two-argument action keyword (`-fprintf FILE FORMAT`). -/
theorem writes_action_binary {α β : Type} (pf : Profile) (kw : Text) (tr : α × β → Action) (l : P Char α) (r : P Char β)
    (args : Text) (hm : (kw, binary kw tr l r args) ∈ actionAlts pf) (ws1 a1 ws2 a2 : Text) (ok : Text → Prop)
    (v1 : α) (v2 : β) (hn1 : ws1 ≠ []) (hw1 : ∀ c ∈ ws1, isBlank c = true) (hn2 : ws2 ≠ [])
    (hw2 : ∀ c ∈ ws2, isBlank c = true) (h1 : ArgExact l v1 a1) (h2 : ArgWrites r ok v2 a2) :
    Writes pf ok (.action (tr (v1, v2))) (kw ++ (ws1 ++ (a1 ++ (ws2 ++ a2)))) :=
  (keyword_action hm).writes_binary hn1 hw1 hn2 hw2 h1 h2

/-! `-xattr-match`, one of the two two-argument keywords of the tables, is an instance. -/
example (pf : Profile) : Writes pf WordStop (.test (.xattrMatch (cl!"user.a") (cl!"v 1")))
    (cl!"-xattr-match \t'user.a'\n\"v 1\"") := by
  have h := writes_test_binary pf (cl!"-xattr-match") (fun (fv : Text × Text) => Test.xattrMatch fv.1 fv.2)
    (context (expected (cl!"attribute")) parseString) (context (expected (cl!"value")) parseString)
    (cl!"attribute_and_value") (mem_of_lookup rfl) (cl!" \t") (cl!"'user.a'") (cl!"\n") (cl!"\"v 1\"") (fun _ => True)
    (cl!"user.a") (cl!"v 1") (by simp) (by decide) (by simp) (by decide)
    (argExact_context _ _ _ _ ((argExact_word (cl!"user.a") (by simp)).2.1 (by decide)))
    (argWrites_context _ _ _ _ _ ((argWrites_word (cl!"v 1") (by simp)).2.2 (by decide)))
  exact ⟨h.1, fun tail _ => h.2 tail trivial⟩

/-- What may follow a type list. -/
def TypeStop (tail : Text) : Prop := tail = [] ∨ ∃ c r, tail = c :: r ∧ isAlpha c = false ∧ c ≠ ','

def typeTail : List Char → Text
  | [] => []
  | c :: cs => ',' :: c :: typeTail cs

theorem typeTail_eq (cs : List Char) : typeTail cs = commaTail (fun c => [c]) cs := by
  induction cs with
  | nil => rfl
  | cons c cs ih => simp only [typeTail, commaTail, ih, List.cons_append, List.nil_append]

/-- Type lists: one or more type letters separated by commas, up to the end or a character that is
    neither a letter nor a comma. -/
theorem argWrites_types (pf : Profile) (c : Char) (cs : List Char) (ts : List FileType)
    (hm : (c :: cs).mapM fileTypeOf = some ts) :
    ArgWrites (parseFileTypes pf) TypeStop ts (c :: typeTail cs) := by
  obtain ⟨t, _, hc, _, _⟩ := mapM_cons_eq_some.1 hm
  refine ⟨⟨c, _, rfl, (fileType_letter c t hc).2.2⟩, fun tail ht => ⟨tail, ?_, rfl⟩⟩
  have hstop : (tail = [] ∨ ∃ d r, tail = d :: r ∧ isAlpha d = false) ∧ isPrefix (cl!",") tail = false := by
    rcases ht with rfl | ⟨d, r, rfl, hd, hne⟩
    · exact ⟨Or.inl rfl, rfl⟩
    · exact ⟨Or.inr ⟨d, r, rfl, hd⟩, by simp [isPrefix, Ne.symm hne]⟩
  rw [typeTail_eq]
  exact separated1_written pf parseFileType (fun c => [c]) fileTypeOf _ (fun x => Or.inr ⟨',', x, rfl, rfl⟩) tail
    hstop.1 hstop.2 c cs ts hm fun c' _ v hv rest hr => parseFileType_letter c' v rest hv hr

example : ArgWrites (parseFileTypes .debug) TypeStop [.file, .directory, .link] (cl!"f,d,l") :=
  argWrites_types .debug 'f' ['d', 'l'] _ (by decide)

end FV

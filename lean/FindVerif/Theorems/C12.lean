import FindVerif.Proofs.CompileRun
import FindVerif.Spec.Supported
/-
  C12 — unsupported constructs are refused, never silently dropped.
  `compile` is the model of `scheme::compile`; `Spec.firstUnsupported` is the independent table of
  what the target cannot express.  For every tree of the shapes the parser returns (no
  explicit-precedence and no option node), any clock and any options: compilation fails exactly
  when the tree contains an unsupported construct at some depth (dead branches and format
  strings included), the error is of the right kind, and every supported tree compiles.
-/
namespace FV
open Spec

def CompileError.kind : CompileError → String
  | .unsupportedTest _ => "UnsupportedTest" | .unsupportedAction _ => "UnsupportedAction"
  | .unsupportedOption _ => "UnsupportedOption" | .unsupportedFormat _ => "UnsupportedFormat"

/-- How a compilation ends, with the payload forgotten. -/
inductive Verdict
  | emitted
  | refused (kind : String)
  | panicked
  deriving DecidableEq

def CRes.verdict {α} : CRes α → Verdict
  | .ok _ => .emitted
  | .err x => .refused x.kind
  | .panic _ => .panicked

def Verdict.andThen : Verdict → Verdict → Verdict
  | .emitted, v => v
  | w, _ => w

/-- What an entry of the table of unsupported constructs predicts. -/
def predicted : Option (String × String) → Verdict
  | none => .emitted
  | some (k, _) => .refused k

theorem CRes.verdict_emitted {α} {x : CRes α} (h : x.verdict = .emitted) : ∃ a, x = .ok a := by
  cases x with
  | ok a => exact ⟨a, rfl⟩
  | err e => cases h
  | panic s => cases h

theorem CRes.verdict_refused {α} {x : CRes α} {k : String} (h : x.verdict = .refused k) : ∃ e, x = .err e ∧ e.kind = k := by
  cases x with
  | ok a => cases h
  | err e => exact ⟨e, rfl, Verdict.refused.inj h⟩
  | panic s => cases h

theorem CRes.map_verdict {α β : Type} (f : α → β) (x : CRes α) : (x.map f).verdict = x.verdict := by
  cases x <;> rfl

theorem CRes.thenOk_verdict {α β γ : Type} (f : α → β → γ) (x : CRes (α × CState)) {r : CState → CRes (β × CState)}
    {v : Verdict} (h : ∀ s, (r s).verdict = v) : (x.thenOk f r).verdict = x.verdict.andThen v := by
  cases x with
  | ok p => rw [← h p.2]; exact map_verdict _ _
  | err e => rfl
  | panic p => rfl

theorem elementTemplate_verdict (e : FormatElement) :
    (CRes.ofExcept (elementTemplate e)).verdict = predicted ((unsupportedElement e).map fun n => ("UnsupportedFormat", n)) := by
  cases e with
  | literal s => rfl
  | special v => cases v <;> rfl
  | field f =>
    cases f with
    | accessFormatted c | changeFormatted c | modifyFormatted c =>
      -- `~d` for `@`, `~a` otherwise: a placeholder either way
      simp only [elementTemplate, placeholder_accessFormatted, placeholder_changeFormatted, placeholder_modifyFormatted]
      rfl
    | _ => rfl

theorem templateOf_verdict (es : List FormatElement) :
    (CRes.ofExcept (templateOf es)).verdict = predicted ((unsupportedFormat es).map fun n => ("UnsupportedFormat", n)) := by
  induction es with
  | nil => rfl
  | cons e es ih =>
    have hseq : (CRes.ofExcept (templateOf (e :: es))).verdict =
        ((CRes.ofExcept (elementTemplate e)).verdict).andThen ((CRes.ofExcept (templateOf es)).verdict) := by
      simp only [templateOf]
      cases elementTemplate e with
      | error x => rfl
      | ok t => cases templateOf es <;> rfl
    rw [hseq, elementTemplate_verdict, ih, unsupportedFormat, unsupportedFormat, List.findSome?_cons]
    cases unsupportedElement e <;> rfl

theorem compileFormat_verdict (es : List FormatElement) :
    (CRes.ofExcept (compileFormat es)).verdict = predicted ((unsupportedFormat es).map fun n => ("UnsupportedFormat", n)) := by
  rw [← templateOf_verdict, compileFormat]
  cases templateOf es <;> rfl

theorem test_verdict (clk : Nat → Nat) (t : Test) (st : CState) :
    (compileTest clk t st).verdict = predicted ((unsupportedTest t).map fun n => ("UnsupportedTest", n)) := by
  cases t with
  | xattrMatch f v => rw [compileTest_xattrMatch]; rfl
  | _ => rfl

theorem action_verdict (a : Action) (st : CState) : (compileAction a st).verdict = predicted (unsupportedAction a) := by
  cases a with
  | printFormatted es => rw [compileAction_printFormatted, CRes.map_verdict]; exact compileFormat_verdict es
  | filePrintFormatted d es => rw [compileAction_filePrintFormatted, CRes.map_verdict]; exact compileFormat_verdict es
  | _ => rfl

/-- Key lemma: on parser-shaped trees, how `compileExpr` ends is decided by `firstUnsupported`,
    whatever the manager state and clock. -/
theorem expr_verdict (clk : Nat → Nat) (e : Expr) (hp : plainB e = true) (st : CState) :
    (compileExpr clk e st).verdict = predicted (firstUnsupported e) := by
  induction e generalizing st with
  | test t => exact test_verdict clk t st
  | action a => exact action_verdict a st
  | positional p => rfl
  | global g => cases hp
  | prec e _ => cases hp
  | not e ih => rw [compileExpr_not, CRes.mapOk, CRes.map_verdict]; exact ih hp st
  | and a b iha ihb | list a b iha ihb | or a b iha ihb =>
    simp only [plainB, Bool.and_eq_true] at hp
    simp only [compileExpr_and, compileExpr_list, compileExpr_or, firstUnsupported]
    rw [CRes.thenOk_verdict _ _ (ihb hp.2), iha hp.1]
    cases firstUnsupported a <;> rfl

theorem compile_verdict (clk : Nat → Nat) (e : Expr) (o : RunOptions) (hp : plainB e = true) :
    (compile clk e o).verdict = predicted (firstUnsupported e) := by
  have h1 : plainB (policyTree e) = true := by
    unfold policyTree; split <;> simp [plainB, hp]
  have h2 : firstUnsupported (policyTree e) = firstUnsupported e := by
    unfold policyTree
    split
    · simp only [firstUnsupported, unsupportedAction]
      cases firstUnsupported e <;> rfl
    · rfl
  rw [compile_eq, CRes.map_verdict, expr_verdict clk _ h1, h2]

/-- C12, main statement: compilation is refused exactly when the tree contains an unsupported
    construct; otherwise it produces a program (never a panic, never a placeholder). -/
theorem C12 (clk : Nat → Nat) (e : Expr) (o : RunOptions) (hp : plainB e = true) :
    ((∃ x, compile clk e o = .err x) ↔ hasUnsupported e = true) ∧
    (hasUnsupported e = false → ∃ c, compile clk e o = .ok c) := by
  have hv := compile_verdict clk e o hp
  unfold hasUnsupported
  cases hf : firstUnsupported e with
  | none =>
    rw [hf] at hv
    obtain ⟨c, hc⟩ := CRes.verdict_emitted hv
    refine ⟨⟨?_, fun h => nomatch h⟩, fun _ => ⟨c, hc⟩⟩
    rintro ⟨x, hx⟩
    rw [hc] at hx
    cases hx
  | some kn =>
    rw [hf] at hv
    obtain ⟨x, hx, _⟩ := CRes.verdict_refused hv
    exact ⟨⟨fun _ => rfl, fun _ => ⟨x, hx⟩⟩, fun h => nomatch h⟩

/-- The error kind is that of the first unsupported construct in left-to-right order. -/
theorem C12_kind (clk : Nat → Nat) (e : Expr) (o : RunOptions) (hp : plainB e = true) (k n : String)
    (h : firstUnsupported e = some (k, n)) : ∃ x, compile clk e o = .err x ∧ x.kind = k := by
  have hv := compile_verdict clk e o hp
  rw [h] at hv
  exact CRes.verdict_refused hv

example : hasUnsupported (.or (.test .true_) (.and (.test .false_) (.test (.regex ['a'])))) = true := by decide +kernel
example : hasUnsupported (.action (.printFormatted [.literal ['a'], .field .depth])) = true := by decide +kernel
example : hasUnsupported (.and (.test (.name ['x'])) (.action (.printFormatted [.field .name, .special .newline]))) = false := by decide +kernel

end FV

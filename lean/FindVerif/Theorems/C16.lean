import FindVerif.Proofs.ConcLive
import FindVerif.Proofs.PortsInv
/-
  C16 — concurrent scanner threads never tear or mix output records.

  (a) About the emitted code (model of the resource manager, tied to the implementation by the
      correspondence run and by the structural predicate `checkC16` evaluated on the
      implementation's own output): every printer binding the compiler can emit writes under the
      mutex of its port — mutex index = port index + 1, the pair `init_default_port` /
      `init_file_port` create together — and in framed mode the only binding that writes is the
      fixed frame procedure, which wraps both writes in `with-mutex %lf3:mutex:1`.
  (b) About every schedule (interleaving machine `Conc`, independent of the model): any number of
      threads, any number of printer calls per thread, any pieces, any schedule of the atomic steps
      lock / write-one-piece / unlock, provided every section takes the mutex of its port.
      Unbounded: the property's "1..3 printers, 2..3 threads, 1..2 calls" bound is not needed.
  Modelled rather than verified: the atomicity of one `display` of one piece (the piece granularity
  is a parameter: a piece may be a single byte), and the semantics of Guile's `with-mutex` / lipe's
  `make-printer` as lock; write…; unlock.
-/
namespace FV
open Conc

/-- The critical section a call of printer binding `b` with payload `pl` performs, per
    `make-printer port mutex term` (plain) and `%lf3:frame:2` (framed). -/
def callOf (b : Binding) (pl : List Nat) : Option Sec :=
  match b with
  | .printerL _ prt mtx term =>
    some { port := prt, mutex := mtx,
           pieces := match term with | some c => [pl, [c.toNat % 256]] | none => [pl] }
  | .printerD i => some { port := 0, mutex := 1, pieces := [pl, [0x1e, i]] }
  | _ => none

/-- Every printer the compiled program defines writes under its port's own mutex, in both
    modes, for every expression that compiles. -/
theorem C16_emitted_well_locked (clk : Nat → Nat) (e : Expr) (body : Text) (st : CState)
    (h : compileExpr clk e { mgr := if e.complexFrames then Manager.distInit else Manager.localInit } = .ok (body, st)) :
    ∀ b ∈ st.mgr.vars, ∀ pl sec, callOf b pl = some sec → sec.mutex = sec.port + 1 := by
  have := (Emits.of_ok h).keeps PortsInv.keeps (initialManager_cases PortsInv.distInit PortsInv.localInit e)
  intro b hb pl sec hs
  cases b with
  | printerL i prt mtx term => cases hs; exact this.printerOk _ _ _ _ hb
  | printerD i => cases hs; rfl
  | _ => cases hs

/-- Framed mode: besides the fixed port 0, mutex 1 and frame procedure, only frame-delegating
    printers and matchers are ever bound — no other binding can write to the port. -/
theorem C16_framed_only_frame_writes (clk : Nat → Nat) (e : Expr) (body : Text) (st : CState)
    (h : compileExpr clk e { mgr := Manager.distInit } = .ok (body, st)) :
    st.mgr.distributed = true ∧ ∀ b ∈ st.mgr.vars, b.framedOk :=
  let r := (Emits.of_ok h).keeps DistShape.keeps DistShape.distInit
  ⟨r.dist, r.shape⟩

/-- The frame procedure as emitted: both displays inside one `with-mutex` on the one mutex. -/
theorem C16_frame_text : Binding.frame.render =
    cl!"(%lf3:frame:2 (lambda (s d) (with-mutex %lf3:mutex:1 (display s %lf3:port:0) (display (string #\\x1e d) %lf3:port:0))))" := rfl

/-- Every framed printer delegates to the frame procedure with its own tag. -/
theorem C16_framed_printer_text (i : Nat) : (Binding.printerD i).render =
    cl!"(" ++ lf3 (cl!"print") i ++ cl!" (lambda (line) (%lf3:frame:2 line #\\x" ++ natToHex02 i ++ cl!")))" := rfl

/-- The hypothesis of (b) is what `C16_emitted_well_locked` says of each call of an emitted printer. -/
theorem wellLocked_of_calls (prog : List (List Sec)) (h : ∀ secs ∈ prog, ∀ sec ∈ secs, sec.mutex = sec.port + 1) :
    WellLocked prog (· + 1) := h

/-- At every moment of every schedule: whole records, then the partial record of the thread
    currently inside a section on that port — and there is at most one such thread. -/
theorem C16_at_every_moment (prog : List (List Sec)) (hwl : WellLocked prog (· + 1)) (sched : List Nat) (p : Nat) :
    let s := run sched (init prog)
    ∃ part, s.log p = (s.doneRecs p).flatten ++ part ∧
      (part = [] ∨ ∃ t ∈ s.threads, ∃ sec rest k, t.todo = sec :: rest ∧ t.phase = .inside k ∧ sec.port = p ∧
          part = (sec.pieces.take k).flatten) := by
  intro s
  have hinv : LockInv (· + 1) s := run_lockInv sched _ (init_lockInv prog _ hwl)
  exact ⟨_, hinv.logOk p, hinv.partials p⟩

/-- When every thread has finished: each port carries exactly a concatenation of whole records,
    and the records are, as a multiset, the ones the threads were asked to emit on that port. -/
theorem C16_whole_records (prog : List (List Sec)) (hwl : WellLocked prog (· + 1)) (sched : List Nat)
    (hd : allDone (run sched (init prog))) (p : Nat) :
    (run sched (init prog)).log p = ((run sched (init prog)).doneRecs p).flatten ∧
    ((run sched (init prog)).doneRecs p).Perm (pending (init prog) p) := by
  have hinv : LockInv (· + 1) (run sched (init prog)) := run_lockInv sched _ (init_lockInv prog _ hwl)
  constructor
  · rcases hinv.partials p with h | ⟨t, ht, sec, _, _, htodo, _⟩
    · rw [hinv.logOk p, h, List.append_nil]
    · rw [hd t ht] at htodo; cases htodo
  · have := run_perm sched (init prog) p
    rw [pending_nil_of_allDone _ hd p, List.append_nil] at this
    simpa [init] using this

/-- No interleaving deadlocks: in every reachable state with work left some thread can move. -/
theorem C16_no_deadlock (prog : List (List Sec)) (sched : List Nat) (h : ¬ allDone (run sched (init prog))) :
    ∃ i s', step (run sched (init prog)) i = some s' :=
  no_deadlock _ h

/-- Every execution is finite (each move uses one unit of a finite budget) and can be completed. -/
theorem C16_terminates (prog : List (List Sec)) (sched : List Nat) :
    moves sched (init prog) + total (run sched (init prog)) = total (init prog) ∧
    ∃ more, allDone (run more (run sched (init prog))) := by
  exact ⟨moves_total sched _, can_finish _ (run sched (init prog)) rfl⟩

/-- The hypothesis is needed: with a second mutex for the same port (what a printer built over
    another port's mutex amounts to) a schedule tears a record. -/
theorem C16_tearing_without_one_mutex :
    let a : Sec := { port := 0, mutex := 1, pieces := [[1], [2]] }
    let b : Sec := { port := 0, mutex := 3, pieces := [[7], [8]] }
    (run [0, 1, 0, 1, 0, 1, 0, 1] (init [[a], [b]])).log 0 = [1, 7, 2, 8] := by
  decide

/-- A well-locked two-thread program, a schedule, and its (whole-record) output. -/
example :
    let a : Sec := { port := 0, mutex := 1, pieces := [[1], [2]] }
    let b : Sec := { port := 0, mutex := 1, pieces := [[7], [8]] }
    WellLocked [[a], [b]] (· + 1) ∧
    (run [0, 1, 0, 1, 0, 1, 0, 1, 1, 1, 1] (init [[a], [b]])).log 0 = [1, 2, 7, 8] := by
  refine ⟨?_, by decide +kernel⟩
  unfold WellLocked
  decide

end FV

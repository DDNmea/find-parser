import FindVerif.Theorems.C13
import FindVerif.Theorems.C12
import FindVerif.Driver.Obs
/-
  C03 — totality: every input gets an answer, never a crash or hang (logic part).
  In the model every `unwrap()`, `unreachable!()`, `todo!()`-like arm and every winnow loop guard
  is an explicit `panic` outcome, and every loop runs on fuel.  No panic outcome is reachable, for
  all input strings (no 4 KiB bound) and both build profiles: at once "no unwrap on None /
  unreachable reached", "no repeated parser succeeds without consuming" (winnow's debug assertion)
  and "fuel never runs out" (the Rust loops terminate).  Rendering a program and querying the table
  have no failing branch in the model: nothing to state.  Stack depth, allocator aborts and
  wall-clock hangs are left to the correspondence run, within the property's bounds (DESIGN.md §7 C03).
-/
namespace FV

/-- Parsing returns a result or an error value; never a panic. -/
theorem C03_parse (pf : Profile) (s : Text) :
    (∃ o e, parse pf s = .ok o e) ∨ (∃ err, parse pf s = .error err) := by
  cases h : parse pf s with
  | ok o e => exact Or.inl ⟨o, e, rfl⟩
  | error err => exact Or.inr ⟨err, rfl⟩
  | panic site => exact absurd h (parse_noPanic pf s site)

/-- Compiling any returned result returns a program or an error value; never a panic
    (in particular the `unreachable!()` arms for option and precedence nodes are unreachable). -/
theorem C03_compile (pf : Profile) (s : Text) (o : RunOptions) (e : Expr) (clk : Nat → Nat)
    (h : parse pf s = .ok o e) :
    (∃ c, compile clk e o = .ok c) ∨ (∃ err, compile clk e o = .err err) := by
  have hp := C13_no_option_node pf s o e h
  have := C12 clk e o hp
  cases hu : Spec.hasUnsupported e with
  | true => exact Or.inr (this.1.mpr hu)
  | false => exact Or.inl (this.2 hu)

/-- Rendering an error as text never gives the empty text. -/
theorem C03_errtext (err : ParseError) : err.display ≠ [] := by
  cases err <;> exact fun h => nomatch h

theorem C03_compile_errtext (err : CompileError) : err.display ≠ [] := by
  cases err <;> exact fun h => nomatch h

/-- The loop bodies make progress: winnow's `repeat` guard can never fire (the two facts of this
    kind that `parse_noPanic` rests on for the top-level loops). -/
theorem C03_progress_lex (pf : Profile) : W.Consumes (W.terminated (token pf) W.multispace0) :=
  ((safe_token pf).terminated W.safe_multispace0).consumes

theorem C03_progress_globals : W.Consumes (W.terminated parseGlobal W.multispace0) :=
  (safe_parseGlobal.terminated W.safe_multispace0).consumes

/-! Two of the inputs of DESIGN.md §0.3: an ordinary error and an ordinary result in the model. -/
example : (match parse .debug (cl!"-maxdepth 3") with | .error _ => true | _ => false) = true := by decide +kernel
example : parse .release (cl!"-size 18446744073709551615w")
    = .ok {} (.test (.size (.eq (.word 18446744073709551615)))) := by decide +kernel

end FV

import FindVerif.Proofs.FormatLoop
/-
  C14 — format strings are segmented exactly as the printf mini-language says.
  `parseFormat` is the model of `Vec::<FormatElement>::parse` (nested winnow `repeat` /
  `repeat_till` with backtracking); `Spec.Printf.seg` is the one-pass reference scanner written
  from the documented tables.  For all format strings (any length, any characters) and both
  build profiles they agree: same element list with nothing left over, or rejection exactly
  when a `%` is not followed by a documented directive.
-/
namespace FV
open W Spec.Printf

/-- The element list returned is the reference segmentation; an undocumented `%` is an error. -/
theorem C14 (pf : Profile) (s : Text) :
    match seg s with
    | some els => parseFormat pf s = .ok els []
    | none => ∃ c r, parseFormat pf s = .err true c r := by
  have ho := outer_spec pf s.length s (s.length + 1) [] rfl (by omega)
  have hfold : (fun i : Text => repeatFold pf (map litThen (repeatTill0 pf any parseElement))
      (fun acc e => acc ++ e) (i.length + 1) [] i) s = repeatFold pf (fmtBody pf) (fun acc e => acc ++ e) (s.length + 1) [] s := rfl
  simp only [seg]
  cases hseg : segAux (s.length + 1) [] s with
  | some els =>
    rw [hseg] at ho
    obtain ⟨l, r, h, he⟩ := ho
    simp only [parseFormat, context, map, pair, hfold, h, repeat0_any]
    simpa using he
  | none =>
    rw [hseg] at ho
    obtain ⟨c, r, h⟩ := ho
    have : parseFormat pf s = .err true (c ++ [expected (cl!"format_string")]) r := by
      simp only [parseFormat, context, map, pair, hfold, h]
    exact ⟨_, _, this⟩

theorem formatArg_of_seg (pf : Profile) {i fmt r : Text} {els : List FormatElement} (hq : quoteDelimiter i = .ok fmt r)
    (hs : seg fmt = some els) : formatArg pf i = .ok els r := by
  have hfmt := C14 pf fmt
  rw [hs] at hfmt
  exact andThen_of_ok hq hfmt

theorem formatArg_of_seg_none (pf : Profile) {i fmt r : Text} (hq : quoteDelimiter i = .ok fmt r)
    (hs : seg fmt = none) : ∃ c, formatArg pf i = .err true c i := by
  have hfmt := C14 pf fmt
  rw [hs] at hfmt
  obtain ⟨c, _, hf⟩ := hfmt
  exact ⟨c, by simp only [formatArg, andThen, hq, hf]⟩

def isLit : FormatElement → Bool
  | .literal _ => true
  | _ => false

/-- Every literal of the segmentation is non-empty and no two literals are adjacent. -/
def ShapeOk : List FormatElement → Prop
  | [] => True
  | [.literal s] => s ≠ []
  | [_] => True
  | .literal s :: b :: rest => s ≠ [] ∧ isLit b = false ∧ ShapeOk (b :: rest)
  | _ :: b :: rest => ShapeOk (b :: rest)

theorem flush_shape (buf : Text) : flush buf = [] ∨ ∃ s, flush buf = [.literal s] ∧ s ≠ [] := by
  unfold flush
  by_cases h : buf.isEmpty = true
  · simp [h]
  · right
    refine ⟨buf.reverse, by simp [h], ?_⟩
    intro he; simp at he; simp [he] at h

theorem shape_flush_cons (buf : Text) (el : FormatElement) (tl : List FormatElement) (hel : isLit el = false)
    (ht : ShapeOk tl) : ShapeOk (flush buf ++ el :: tl) := by
  -- behind an element that is no literal nothing is asked of the next one
  have hcons : ShapeOk (el :: tl) := by
    cases el with
    | literal s => cases hel
    | field _ | special _ =>
      cases tl with
      | nil => trivial
      | cons b rest => exact ht
  rcases flush_shape buf with h | ⟨s, h, hs⟩
  · rw [h]; simpa using hcons
  · rw [h]
    simp only [List.singleton_append, ShapeOk]
    exact ⟨hs, hel, hcons⟩

theorem specHead_notLit {i : Text} {el : FormatElement} {r : Text} (h : specHead i = .elem el r) : isLit el = false := by
  unfold specHead at h
  split at h
  · split at h <;> cases h
    rfl
  · cases h; rfl
  · cases h

theorem segAux_shape : ∀ (fuel : Nat) (buf i : Text) (els : List FormatElement), segAux fuel buf i = some els → ShapeOk els := by
  intro fuel
  induction fuel with
  | zero => intro buf i els h; simp [segAux] at h
  | succ n ih =>
    intro buf i els h
    cases i with
    | nil =>
      simp [segAux] at h
      subst h
      rcases flush_shape buf with h | ⟨s, h, hs⟩
      · simp [h, ShapeOk]
      · simp [h, ShapeOk, hs]
    | cons c cs =>
      rw [segAux_cons] at h
      cases hs : specHead (c :: cs) with
      | elem el r =>
        simp only [hs] at h
        cases ht : segAux n [] r with
        | none => simp [ht] at h
        | some tl =>
          simp only [ht, Option.map_some, Option.some.injEq] at h
          subst h
          exact shape_flush_cons buf el tl (specHead_notLit hs) (ih [] r tl ht)
      | bad => simp [hs] at h
      | plain => simp only [hs] at h; exact ih (c :: buf) cs els h

theorem C14_shape (pf : Profile) (s : Text) (els : List FormatElement) (r : Text)
    (h : parseFormat pf s = .ok els r) : ShapeOk els ∧ r = [] := by
  have := C14 pf s
  cases hs : seg s with
  | some els' =>
    rw [hs] at this
    rw [this] at h
    cases h
    exact ⟨segAux_shape _ _ _ _ hs, rfl⟩
  | none =>
    rw [hs] at this
    obtain ⟨c, r', hh⟩ := this
    rw [hh] at h; cases h

/-- An octal escape takes exactly three digits; fewer is not an octal escape; a fourth digit is
    ordinary text. -/
example : seg (cl!"\\1012") = some [.special (.ascii 65), .literal ['2']] := by decide +kernel
example : seg (cl!"\\10") = some [.special .backslash, .literal ['1', '0']] := by decide +kernel
example : seg (cl!"a%pb\\nc%%") = some [.literal ['a'], .field .name, .literal ['b'], .special .newline, .literal ['c'], .field .percent] := by decide +kernel
example : seg (cl!"100%q") = none := by decide +kernel
example : parseFormat .debug (cl!"\\f%{xattr:ab}") = .ok [.special .form, .field (.xattr ['a', 'b'])] [] := by decide +kernel

end FV

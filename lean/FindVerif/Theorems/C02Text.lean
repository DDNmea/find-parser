import FindVerif.Theorems.C04Whole
import FindVerif.Theorems.C02
namespace FV
open Scheme Spec

/-- C02 on the emitted text: read it with the Scheme reader, run the program it denotes on a file,
    and get find's outcome for the tree. -/
theorem C02_end_to_end (rt : Rt) (file : File) (clk : Nat → Nat) (now : Nat) (e : Expr) (o : RunOptions) (c : Compiled) (mdt : Text)
    (hclk : ∀ i, clk i = now) (hc : compile clk e o = .ok c)
    (htags : ∀ kv ∈ c.ioMap.getD [], kv.1 < 0xD800)
    (hdef : evalFind rt now (policyTree e) file ≠ .undefined) :
    ∃ forms p, readAll (c.scheme mdt) = some forms ∧ programOf forms = some p ∧
      runPolicy rt file c.ioMap p.bindings p.body = .outcome (evalFind rt now (policyTree e) file) := by
  obtain ⟨ps, p, forms, hps, hread, hprog, hb, hbody, _, hio⟩ := C04_whole_program clk e o c mdt hc
  refine ⟨forms, p, hread, hprog, ?_⟩
  rw [hb, hbody, hio]
  exact C02_translation_validity rt file clk now e ps hclk hps (fun kv hkv => htags kv (hio ▸ hkv)) hdef

end FV

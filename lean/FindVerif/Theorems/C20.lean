import FindVerif.Theorems.C04
/-
  C20 — compile once, render for any device: only the device path varies.
  `Compiled.scheme` is the model of `CompiledExpression::scheme`.  For every compiled value and
  all device paths (any characters, any length).  Rendering is a function of the compiled value and
  the path (its type), so it cannot touch the destination table.
-/
namespace FV
open Scheme

/-- A rendering is a fixed prefix, the escaped path between double quotes, and a fixed suffix; prefix
    and suffix depend on the compiled value only. -/
theorem C20_one_place (c : Compiled) (mdt : Text) :
    c.scheme mdt = c.prefix_ ++ ('"' :: schemeEscape mdt ++ '"' :: c.suffix_) := rfl

/-- The quoted path is read back by the (independent) Scheme reader as exactly the path given,
    leaving the fixed suffix. -/
theorem C20_device_decodes (c : Compiled) (mdt : Text) :
    ∃ fuel, read1 fuel ('"' :: schemeEscape mdt ++ '"' :: c.suffix_) = some (.str mdt, c.suffix_) :=
  ⟨1, read1_quoted (schemeEscape_escapesTo mdt) c.suffix_ 0⟩

/-- Different paths, same prefix and suffix (`C20_one_place` twice).  The first conjunct is congruence
    and holds of any function. -/
theorem C20_pure (c : Compiled) (m₁ m₂ : Text) :
    (m₁ = m₂ → c.scheme m₁ = c.scheme m₂) ∧
    (∃ pre post, c.scheme m₁ = pre ++ ('"' :: schemeEscape m₁ ++ '"' :: post) ∧
                 c.scheme m₂ = pre ++ ('"' :: schemeEscape m₂ ++ '"' :: post)) :=
  ⟨fun h => by rw [h], ⟨c.prefix_, c.suffix_, C20_one_place c m₁, C20_one_place c m₂⟩⟩

/-- Escaping is injective: different paths give different programs (the place really varies). -/
theorem C20_distinct (c : Compiled) (m₁ m₂ : Text) (h : c.scheme m₁ = c.scheme m₂) : m₁ = m₂ := by
  rw [C20_one_place, C20_one_place] at h
  -- the prefix, the closing quote with the suffix, and the opening quote cancel
  exact C04_escape_injective _ _ (List.cons.inj (List.append_cancel_right (List.append_cancel_left h))).2

example : schemeEscape (cl!"a\"b\\c") = cl!"a\\\"b\\\\c" := by decide +kernel

end FV

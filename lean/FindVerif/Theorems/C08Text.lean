import FindVerif.Theorems.C06Args
import FindVerif.Theorems.C08
/-
  C08 / C05 / C06 — symbolic permission modes as written.  C08's clause theorems start from the
  three pieces of a clause (who, operator, permissions); here the permission reader splits
  `ugo+rwx,…` into exactly those pieces, clause after clause, so the written argument denotes the
  fold of the clauses' updates from mode 0 — which `C08_symbolic_partial` identifies with chmod's
  result for minus-free lists — and `-perm` with a symbolic mode and any of the prefixes gets the
  `ArgWrites` instance that `C06_layout` needs.
-/
namespace FV
open W Spec

def clauseText (ct : ClauseText) : Text := ct.who ++ ct.op :: ct.perm

def symTail : List ClauseText → Text
  | [] => []
  | c :: cs => ',' :: (clauseText c ++ symTail cs)

/-- What may follow a written clause. -/
def LevelStop (rest : Text) : Prop := rest = [] ∨ ∃ c r, rest = c :: r ∧ isLevel c = false

theorem who_chars (c : Char) (h : (whoOfChar c).isSome) : isWho c = true ∧ isWordChar c = true := by
  rcases whoOfChar_isSome h with rfl | rfl | rfl | rfl <;> decide

theorem who_head (c : Char) (h : (whoOfChar c).isSome) : (c ≠ '"' ∧ c ≠ '\'') ∧ (c ≠ '/' ∧ c ≠ '-') ∧ isOct c = false := by
  rcases whoOfChar_isSome h with rfl | rfl | rfl | rfl <;> decide

theorem op_chars (c : Char) (h : (opOfChar c).isSome) : isOp c = true ∧ isWho c = false ∧ isWordChar c = true := by
  rcases opOfChar_isSome h with rfl | rfl | rfl <;> decide

theorem perm_chars (c : Char) (h : (permOfChar c).isSome) : isLevel c = true ∧ isWordChar c = true := by
  rcases permOfChar_isSome h with rfl | rfl | rfl <;> decide

theorem parsePartial_clause (ct : ClauseText) (hv : ct.Valid) (rest : Text) (hr : LevelStop rest) :
    ∃ pp, ct.model = some pp ∧ parsePartial (clauseText ct ++ rest) = .ok pp rest := by
  obtain ⟨_, _, _, _, hmodel⟩ := model_of_valid ct hv
  obtain ⟨hw, hwc, hop, hp, ps, hps⟩ := hv
  refine ⟨_, hmodel, ?_⟩
  have hwho : ∀ c ∈ ct.who, isWho c = true := fun c hc => (who_chars c (hwc c hc)).1
  have hopc := op_chars ct.op hop
  have hperm : ∀ c ∈ ct.perm, isLevel c = true := fun c hc => (perm_chars c (mapM_isSome hps c hc)).1
  have r1 := takeWhile_run (m := 1) (List.length_pos_iff.mpr hw) hwho (Or.inr ⟨ct.op, ct.perm ++ rest, rfl, hopc.2.1⟩)
  have r2 := takeWhile_run (m := 1) (List.length_pos_iff.mpr hp) hperm hr
  simp only [clauseText, List.append_assoc, List.cons_append]
  exact mapOrPanic_of_ok (pair_of_ok r1 (pair_of_ok (cutErr_ok.2 (context_ok.2 (oneOf_cons _ hopc.1)))
    (cutErr_ok.2 (context_ok.2 r2)))) hmodel

theorem symTail_eq (cs : List ClauseText) : symTail cs = commaTail clauseText cs := by
  induction cs with
  | nil => rfl
  | cons c cs ih => simp only [symTail, commaTail, ih]

theorem clauseText_head (ct : ClauseText) (hv : ct.Valid) (rest : Text) :
    ∃ w0 t0, clauseText ct ++ rest = w0 :: t0 ∧ (whoOfChar w0).isSome := by
  obtain ⟨hw, hwc, _⟩ := hv
  obtain ⟨w0, wr, hw0⟩ := List.exists_cons_of_ne_nil hw
  exact ⟨w0, wr ++ ct.op :: ct.perm ++ rest, by simp [clauseText, hw0], hwc w0 (by simp [hw0])⟩

/-- The permission reader on a written clause list: the fold of the clauses' updates from mode 0. -/
theorem parsePermission_symbolic (pf : Profile) (c : ClauseText) (cs : List ClauseText)
    (hv : ∀ ct ∈ c :: cs, ct.Valid) :
    ∃ pps, (c :: cs).mapM ClauseText.model = some pps ∧
      parsePermission pf (clauseText c ++ symTail cs) =
        .ok (pps.foldl (fun acc (e : PartialPermission) => e.update acc) 0) [] := by
  obtain ⟨pps, hpps⟩ := mapM_of_isSome ClauseText.model (c :: cs) fun ct hct => by
    obtain ⟨_, _, _, _, hm⟩ := model_of_valid ct (hv ct hct)
    rw [hm]; rfl
  refine ⟨pps, hpps, ?_⟩
  have hl := separated1_written pf parsePartial clauseText ClauseText.model LevelStop (fun x => Or.inr ⟨',', x, rfl, rfl⟩) []
    (Or.inl rfl) rfl c cs pps hpps fun ct hct pp hpp rest hr => by
      obtain ⟨pp', hpp', hparse⟩ := parsePartial_clause ct (hv ct hct) rest hr
      rw [hpp] at hpp'
      exact Option.some.inj hpp' ▸ hparse
  rw [List.append_nil, ← symTail_eq] at hl
  -- the octal alternative backtracks: a who character is not an octal digit
  obtain ⟨w0, t0, htxt, hw0⟩ := clauseText_head c (hv c (List.mem_cons_self ..)) (symTail cs)
  have htw : (clauseText c ++ symTail cs).takeWhile isOct = [] := by
    rw [htxt, List.takeWhile_cons, (who_head w0 hw0).2.2]; rfl
  have hoct : Bt (tryMap octalMode (takeWhile 3 isOct)) (clauseText c ++ symTail cs) :=
    tryMap_of_bt (takeWhile_bt (by rw [htw]; decide))
  exact context_ok.2 ((alt_cons_of_bt hoct (by simp)).trans (alt_cons_of_ok (map_of_ok hl)))

theorem clauseText_word (ct : ClauseText) (hv : ct.Valid) : ∀ c ∈ clauseText ct, isWordChar c = true := by
  obtain ⟨_, hwc, hop, _, ps, hps⟩ := hv
  intro c hc
  simp only [clauseText, List.mem_append, List.mem_cons] at hc
  rcases hc with hc | rfl | hc
  · exact (who_chars c (hwc c hc)).2
  · exact (op_chars _ hop).2.2
  · exact (perm_chars c (mapM_isSome hps c hc)).2

theorem symTail_word : ∀ (cs : List ClauseText), (∀ ct ∈ cs, ct.Valid) → ∀ c ∈ symTail cs, isWordChar c = true
  | [], _, c, hc => by simp [symTail] at hc
  | a :: cs, hv, c, hc => by
    simp only [symTail, List.mem_cons, List.mem_append] at hc
    rcases hc with rfl | hc | hc
    · decide
    · exact clauseText_word a (hv a (by simp)) c hc
    · exact symTail_word cs (fun ct h => hv ct (by simp [h])) c hc

/-- Symbolic permission modes as written, bare, with the prefix `/` (any), `-` (at least) or none
    (equal): the argument denotes the fold of its clauses' updates from mode 0. -/
theorem argWrites_perm_symbolic (pf : Profile) (c : ClauseText) (cs : List ClauseText)
    (hv : ∀ ct ∈ c :: cs, ct.Valid) :
    ∃ pps, (c :: cs).mapM ClauseText.model = some pps ∧
      ArgWrites (permArg pf) WordStop (.equal (pps.foldl (fun acc (e : PartialPermission) => e.update acc) 0))
        (clauseText c ++ symTail cs) ∧
      ArgWrites (permArg pf) WordStop (.any (pps.foldl (fun acc (e : PartialPermission) => e.update acc) 0))
        ('/' :: (clauseText c ++ symTail cs)) ∧
      ArgWrites (permArg pf) WordStop (.atLeast (pps.foldl (fun acc (e : PartialPermission) => e.update acc) 0))
        ('-' :: (clauseText c ++ symTail cs)) := by
  obtain ⟨pps, hpps, hperm⟩ := parsePermission_symbolic pf c cs hv
  refine ⟨pps, hpps, ?_⟩
  obtain ⟨w0, t0, htxt, hw0⟩ := clauseText_head c (hv c (List.mem_cons_self ..)) (symTail cs)
  have hword : ∀ x ∈ clauseText c ++ symTail cs, isWordChar x = true := fun x hx =>
    (List.mem_append.mp hx).elim (clauseText_word c (hv c (List.mem_cons_self ..)) x)
      (symTail_word cs (fun ct h => hv ct (List.mem_cons_of_mem _ h)) x)
  rw [htxt] at hperm hword ⊢
  exact argWrites_perm pf w0 t0 _ hperm hword (who_head w0 hw0).1 (who_head w0 hw0).2.1

/-- From the text to chmod: a written minus-free clause list is read as the mode chmod computes
    from mode 0 for those clauses (C08_symbolic_partial behind the reader). -/
theorem C08_written (pf : Profile) (c : ClauseText) (cs : List ClauseText) (hv : ∀ ct ∈ c :: cs, ct.Valid)
    (hm : ∀ ct ∈ c :: cs, ct.op ≠ '-') :
    ∃ m, parsePermission pf (clauseText c ++ symTail cs) = .ok m [] ∧
      fromBits m = chmodFrom0 ((c :: cs).map ClauseText.clause) := by
  obtain ⟨pps, hpps, hperm⟩ := parsePermission_symbolic pf c cs hv
  obtain ⟨pps', hpps', hch⟩ := C08_symbolic_partial (c :: cs) hv hm
  rw [hpps] at hpps'
  injection hpps' with he
  subst he
  exact ⟨_, hperm, hch⟩

example : clauseText ⟨cl!"ug", '+', cl!"rx"⟩ ++ symTail [⟨cl!"o", '=', cl!"r"⟩] = cl!"ug+rx,o=r" := by decide +kernel
example : parsePermission .debug (cl!"ug+rx,o=r") = .ok 0o554 [] := by decide +kernel

end FV

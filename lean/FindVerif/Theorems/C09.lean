import FindVerif.Proofs.CompileRun
import FindVerif.Theorems.C19
/-
  C09 — implicit print is added exactly when no action is present.
  Structure of the emitted policy body in the model of `scheme::compile`, for every tree:
  without an action anywhere the body is `(and <expression> (print-relative-path))` — the
  expression as one operand, i.e. `( expression ) -a print` — and the wrapper registers no
  resource; with an action at any depth (under negation, in a dead branch, right of OR or `,`)
  the body is the expression's own code and nothing is added.  What the body *computes* is C02.
-/
namespace FV
open Spec

theorem C09_wrap (clk : Nat → Nat) (e : Expr) (o : RunOptions) (c : Compiled)
    (h : compile clk e o = .ok c) (hna : ¬ ContainsAction e) :
    ∃ body st, compileExpr clk e { mgr := initialManager e } = .ok (body, st) ∧
      c.policyBody = cl!"(and " ++ body ++ cl!" " ++ cl!"(print-relative-path)" ++ cl!")" ∧
      c.definitions = st.mgr.definitions ∧ c.ioMap = st.mgr.printerMap := by
  have hna' : e.hasAction = false := Bool.eq_false_iff.mpr fun hh => hna ((C19_action e).mp hh)
  obtain ⟨body', st, hc, hb, hio, hdef, _⟩ := compile_unfold clk e o c h
  simp only [policyTree, hna', Bool.not_false, if_true, compileExpr_and] at hc
  obtain ⟨body, s1, tr, h1, h2, rfl⟩ := CRes.thenOk_ok_iff.mp hc
  cases h2
  exact ⟨body, _, h1, hb, hdef, hio⟩

theorem C09_nowrap (clk : Nat → Nat) (e : Expr) (o : RunOptions) (c : Compiled)
    (h : compile clk e o = .ok c) (ha : ContainsAction e) :
    ∃ st, compileExpr clk e { mgr := initialManager e } = .ok (c.policyBody, st) ∧
      c.definitions = st.mgr.definitions ∧ c.ioMap = st.mgr.printerMap := by
  have ha' : e.hasAction = true := (C19_action e).mpr ha
  obtain ⟨body, st, hc, hb, hio, hdef, _⟩ := compile_unfold clk e o c h
  simp only [policyTree, ha', Bool.not_true, Bool.false_eq_true, if_false] at hc
  exact ⟨st, hb ▸ hc, hdef, hio⟩

example : ¬ ContainsAction (.or (.test .true_) (.not (.test (.name ['x'])))) := by rw [← C19_action]; decide
example : ∃ c, compile (fun _ => 0) (.test .true_) {} = .ok c ∧ c.policyBody = cl!"(and #t (print-relative-path))" :=
  ⟨_, rfl, rfl⟩

end FV

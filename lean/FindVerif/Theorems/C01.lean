import FindVerif.Proofs.ClimbTotal
import FindVerif.Proofs.Spell
/-
  C01 — operator grammar: precedence, associativity, grouping, exact acceptance.
  `climb pf ts` is the model of `precedence::parser` on a token slice (Model/Precedence.lean);
  `Spec.GList` is the stratified find grammar (Spec/Grammar.lean).  All statements hold for
  every token sequence / tree, with no length or depth bound, in both build profiles.
-/
namespace FV
open Spec

/-- Acceptance is exactly grammar membership, and the tree returned is the grammar's. -/
theorem C01_iff (pf : Profile) (ts : List Token) (e : Expr) :
    climb pf ts = .ok e [] ↔ GList ts e :=
  ⟨fun h => (climb_sound pf h).2, fun h => climb_complete pf h⟩

/-- No prefix is ever returned: a successful parse has consumed every token. -/
theorem C01_whole (pf : Profile) (ts : List Token) (e : Expr) (r : List Token)
    (h : climb pf ts = .ok e r) : r = [] ∧ GList ts e := climb_sound pf h

/-- The tree is unique: the grammar is unambiguous. -/
theorem C01_unique (ts : List Token) (e e' : Expr) (h : GList ts e) (h' : GList ts e') : e = e' := by
  have a := climb_complete .debug h
  have b := climb_complete .debug h'
  rw [a] at b
  injection b

/-- A sequence that is not a sentence is rejected as a whole: an error value, never a panic. -/
theorem C01_reject (pf : Profile) (ts : List Token) (h : ¬ ∃ e, GList ts e) :
    ∃ k c r, climb pf ts = .err k c r := by
  cases hc : climb pf ts with
  | ok e r => exact absurd ⟨e, (climb_sound pf hc).2⟩ h
  | err k c r => exact ⟨k, c, r, rfl⟩
  | panic s => exact absurd hc (climb_noPanic pf ts s)

/-- Every tree without explicit-precedence nodes is the parse of its canonical spelling, with
    explicit or implicit AND: precedence `! > AND > OR > ,`, left associativity and parentheses
    leaving no node, all at once. -/
theorem C01_roundtrip (pf : Profile) (x : Bool) (e : Expr) (h : Plain e) :
    climb pf (spell x e) = .ok e [] := climb_complete pf (spell_sound x e h)

theorem plain_list : ∀ {ts e}, GList ts e → Plain e := fun h =>
  h.induct (φ := fun _ e => Plain e)
    (fun {t} _ h => by
      cases t with
      | test _ | action _ | global _ | positional _ => cases h; trivial
      | _ => cases h)
    (fun h => h) (fun h => h)
    (fun _ _ hm h₁ h₂ => by rcases hm with rfl | rfl | rfl <;> exact ⟨h₁, h₂⟩)

theorem plain_atom : ∀ {ts e}, GAtom ts e → Plain e := fun h => plain_list h.toList
theorem plain_and : ∀ {ts e}, GAnd ts e → Plain e := fun h => plain_list h.toList
theorem plain_or : ∀ {ts e}, GOr ts e → Plain e := fun h => plain_list (.or h)

/-- The parser never builds an explicit-precedence node. -/
theorem C01_plain (pf : Profile) (ts : List Token) (e : Expr) (r : List Token)
    (h : climb pf ts = .ok e r) : Plain e := plain_list (climb_sound pf h).2

private def tT : Token := .test .true_
private def tF : Token := .test .false_
private def eT : Expr := .test .true_
private def eF : Expr := .test .false_

/-- `-true , -false -o -true -false , -true` -/
example : climb .debug [tT, .comma, tF, .or, tT, tF, .comma, tT]
    = .ok (.list (.list eT (.or eF (.and eT eF))) eT) [] := by decide +kernel

/-- `! ! ( -true , -false ) -true` -/
example : climb .release [.not, .not, .lparen, tT, .comma, tF, .rparen, tT]
    = .ok (.and (.not (.not (.list eT eF))) eT) [] := by decide +kernel

/-- `-true )` is rejected although its prefix `-true` is a sentence. -/
example : (match climb .debug [tT, .rparen] with | .err _ _ _ => true | _ => false) = true := by decide +kernel

example : spell true (.and (.or eT eF) (.not (.list eT eF)))
    = [.lparen, tT, .or, tF, .rparen, .and, .not, .lparen, tT, .comma, tF, .rparen] := by decide +kernel

end FV

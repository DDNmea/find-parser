import FindVerif.Proofs.Chmod
import FindVerif.Proofs.LexArgs
import FindVerif.Model.Compile
/-
  C08 — permission arguments denote the bits chmod would compute.
  Model: `Lex/Permission.lean` (masks and `update`), oracle: `Spec/Chmod.lean` (per-bit rules).
  For all modes, all who/permission strings of any length and order, all clause lists:
  `+` and `=` clauses compute exactly chmod's rule on every bit (C08_clause), hence every
  `-`-free clause list denotes chmod's result from mode 0 (C08_symbolic_partial); the three
  prefixes select the three checks (C08_prefix, C08_emitted).  The `-` operator does NOT follow
  chmod in this code base (known finding K1): C08_del_actual states exactly what it computes,
  C08_K1_witness exhibits the disagreement on one clause list; the unrestricted statement
  `C08_symbolic_full` is kept below as a definition, neither proved nor refuted in that form.
-/
namespace FV
open Spec W

structure ClauseText where
  who : Text
  op : Char
  perm : Text

def ClauseText.Valid (ct : ClauseText) : Prop :=
  ct.who ≠ [] ∧ (∀ c ∈ ct.who, (whoOfChar c).isSome) ∧ (opOfChar ct.op).isSome ∧
  ct.perm ≠ [] ∧ ∃ ps, ct.perm.mapM permOfChar = some ps

/-- The clause it denotes under chmod's reading. -/
def ClauseText.clause (ct : ClauseText) : Clause :=
  { who := (ct.who.filterMap whoOfChar).flatten,
    op := (opOfChar ct.op).getD .add,
    perms := (ct.perm.mapM permOfChar).getD [] }

/-- What the model builds for it (`PartialPermission::parse` after the three pieces are read). -/
def ClauseText.model (ct : ClauseText) : Option PartialPermission := mkPartial (ct.who, ct.op, ct.perm)

theorem model_of_valid (ct : ClauseText) (h : ct.Valid) :
    ∃ t l, (∀ c p, fromBits t c p = decide (c ∈ ct.clause.who)) ∧ (∀ c p, fromBits l c p = decide (p ∈ ct.clause.perms)) ∧
      ct.model = some (
        if ct.op = '=' then .set t l
        else if ct.op = '+' then .add (t &&& l)
        else .del (t &&& modeNot l)) := by
  obtain ⟨hw, hwc, hop, hp, ps, hps⟩ := h
  obtain ⟨t, ht, htb⟩ := symMode_who ct.who hw hwc
  obtain ⟨l, hl, hlb⟩ := symMode_perm ct.perm ps hp hps
  refine ⟨t, l, htb, by simpa [ClauseText.clause, hps] using hlb, ?_⟩
  simp only [ClauseText.model, mkPartial, ht, hl]
  rcases opOfChar_isSome hop with h | h | h <;> simp [h]

/-- `+` and `=` clauses compute chmod's rule on every (class, permission) bit, for every mode. -/
theorem C08_clause (ct : ClauseText) (h : ct.Valid) (hop : ct.op ≠ '-') :
    ∃ pp, ct.model = some pp ∧ ∀ m, fromBits (pp.update m) = applyClause ct.clause (fromBits m) := by
  obtain ⟨t, l, ht, hl, hm⟩ := model_of_valid ct h
  refine ⟨_, hm, fun m => ?_⟩
  rcases opOfChar_isSome h.2.2.1 with h1 | h1 | h1
  · rw [if_neg (by rw [h1]; decide), if_pos h1, add_spec ht hl]
    simp [ClauseText.clause, opOfChar, h1]
  · exact absurd h1 hop
  · rw [if_pos h1, set_spec ht hl]
    simp [ClauseText.clause, opOfChar, h1]

/-- `-` clauses (known finding K1): the model clears, within the listed classes, the permissions
    that are NOT listed. -/
theorem C08_del_actual (ct : ClauseText) (h : ct.Valid) (hop : ct.op = '-') :
    ∃ pp, ct.model = some pp ∧
      ∀ m, fromBits (pp.update m) = fun c p => fromBits m c p && !(decide (c ∈ ct.clause.who) && !decide (p ∈ ct.clause.perms)) := by
  obtain ⟨t, l, ht, hl, hm⟩ := model_of_valid ct h
  refine ⟨_, hm, fun m => ?_⟩
  rw [if_neg (by rw [hop]; decide), if_neg (by rw [hop]; decide)]
  exact del_actual ht hl m

theorem symbolic_from (cts : List ClauseText) (hv : ∀ ct ∈ cts, ct.Valid) (hm : ∀ ct ∈ cts, ct.op ≠ '-') (m : Nat) :
    ∃ pps, cts.mapM ClauseText.model = some pps ∧
      fromBits (pps.foldl (fun acc (e : PartialPermission) => e.update acc) m)
        = (cts.map ClauseText.clause).foldl (fun g cl => applyClause cl g) (fromBits m) := by
  induction cts generalizing m with
  | nil => exact ⟨[], rfl, rfl⟩
  | cons ct cts ih =>
    obtain ⟨pp, hpp, hstep⟩ := C08_clause ct (hv ct (List.mem_cons_self ..)) (hm ct (List.mem_cons_self ..))
    obtain ⟨pps, hpps, hfold⟩ := ih (fun c hc => hv c (List.mem_cons_of_mem _ hc))
      (fun c hc => hm c (List.mem_cons_of_mem _ hc)) (pp.update m)
    exact ⟨pp :: pps, mapM_cons_eq_some.mpr ⟨pp, pps, hpp, hpps, rfl⟩, by rw [List.foldl_cons, hfold, hstep]; rfl⟩

/-- Every `-`-free clause list has a model, and folding the models' updates from mode 0 gives, on
    each of the nine (class, permission) bits, what chmod computes from mode 0.  Nothing is said
    about the set-id and sticky bits. -/
theorem C08_symbolic_partial (cts : List ClauseText) (hv : ∀ ct ∈ cts, ct.Valid) (hm : ∀ ct ∈ cts, ct.op ≠ '-') :
    ∃ pps, cts.mapM ClauseText.model = some pps ∧
      fromBits (pps.foldl (fun acc (e : PartialPermission) => e.update acc) 0) = chmodFrom0 (cts.map ClauseText.clause) := by
  obtain ⟨pps, h1, h2⟩ := symbolic_from cts hv hm 0
  have h0 : fromBits 0 = fun _ _ => false := by funext c p; simp [fromBits]
  exact ⟨pps, h1, by rw [h2, h0]; rfl⟩

/-- The full-strength statement (all clause lists, `-` included), kept so that the gap stays visible.
    It fails at `u=rwx,u-r` (by `C08_del_actual` the second clause clears `wx`, not `r`); its negation is
    not stated: `C08_K1_witness` shows the disagreement one level up (`parsePermission` against
    `Spec.modeBits`). -/
def C08_symbolic_full : Prop :=
  ∀ cts : List ClauseText, (∀ ct ∈ cts, ct.Valid) →
    ∃ pps, cts.mapM ClauseText.model = some pps ∧
      fromBits (pps.foldl (fun acc (e : PartialPermission) => e.update acc) 0) = chmodFrom0 (cts.map ClauseText.clause)

/-- Witness of K1: `u=rwx,u-r` is 0300 under chmod and 0400 in this code. -/
theorem C08_K1_witness :
    parsePermission .debug (cl!"u=rwx,u-r") = .ok 0o400 [] ∧ Spec.modeBits (cl!"u=rwx,u-r") = some 0o300 := by
  constructor <;> decide

/-- Octal arguments denote exactly their octal value (and must be a mode). -/
theorem C08_octal (ds : Text) (h3 : 3 ≤ ds.length) (ho : ds.all isOct = true) :
    octalMode ds = Spec.modeBits ds := by
  simp [octalMode, Spec.modeBits, h3, ho]

/-- The prefix selects the check. -/
theorem C08_prefix (pf : Profile) (t r : Text) (m : Nat) (h : parsePermission pf t = .ok m r) :
    parsePermCheck pf ('/' :: t) = .ok (.any m) r ∧
    parsePermCheck pf ('-' :: t) = .ok (.atLeast m) r ∧
    (∀ c t', t = c :: t' → c ≠ '/' → c ≠ '-' → parsePermCheck pf t = .ok (.equal m) r) :=
  parsePermCheck_prefix pf t r m h

/-- The emitted test: none = all twelve bits equal (4095 = 0o7777); `-` = all given bits set; `/` = any
    given bit set. -/
theorem C08_emitted (p : Nat) :
    compilePermCheck (.equal p) = cl!"(= (logand (mode) " ++ nat 4095 ++ cl!") " ++ nat p ++ cl!")" ∧
    compilePermCheck (.atLeast p) = cl!"(= (logand (mode) " ++ nat p ++ cl!") " ++ nat p ++ cl!")" ∧
    compilePermCheck (.any p) = cl!"(not (= (logand (mode) " ++ nat p ++ cl!") 0))" :=
  ⟨rfl, rfl, rfl⟩

example : (ClauseText.mk (cl!"ug") '+' (cl!"rw")).Valid := by
  refine ⟨by simp, ?_, by decide, by simp, ⟨[.r, .w], by decide⟩⟩
  intro c hc; simp at hc; rcases hc with rfl | rfl <;> decide
example : parsePermission .release (cl!"ug+rw,o=r") = .ok 0o664 [] := by decide +kernel

end FV

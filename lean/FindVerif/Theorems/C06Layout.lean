import FindVerif.Proofs.LayoutTo
import FindVerif.Proofs.Spell
import FindVerif.Theorems.C06
/-
  C06 / C05 — the layout theorem: whole inputs, not single tokens.

  A *layout* of a token sequence (Proofs/Layout.lean) is any text made of one spelling of each
  token in turn, each followed by a possibly empty run of blanks (space, tab, CR, LF in any mix),
  such that what follows a token is acceptable to that token's reader (for most tokens: the end,
  a blank, or punctuation; for punctuation: anything).  `Writes` is the semantic notion of "a
  spelling of a token"; the `writes_*` theorems show that every family of the vocabulary has its
  spellings: punctuation (anything may follow), both spellings of each operator word, every keyword
  without argument, every keyword with an argument for every non-empty blank run and argument
  spelling (words bare / single-quoted / double-quoted, numbers with and without sign), the options.

  `C06_layout`: for every layout of every token sequence, behind any leading blanks, `parse` returns
  exactly what the specification says for the token sequence: the options of the whole sequence
  (last wins) and the grammar's tree of the expression tokens; nothing depends on the layout.
-/
namespace FV
open W Spec

theorem C06_layout (pf : Profile) (lead s : Text) (gs : List GlobalOption) (ts : List Token)
    (hlead : ∀ c ∈ lead, isBlank c = true) (hL : Layout pf (gs.map Token.global ++ ts) s)
    (hts : ts = [] ∨ ∃ t ts', ts = t :: ts' ∧ isGlobalTok t = false) :
    parse pf (lead ++ s) =
      match climb pf (expressionOf (gs.map Token.global ++ ts)) with
      | .ok e _ => .ok (optionsOf (gs.map Token.global ++ ts)) e
      | .err _ c _ => .error (dispatch c [])
      | .panic x => .panic x := by
  have hnil : NoLead [] := .nil
  obtain ⟨s', hlg, hL'⟩ := leadingGlobals_layoutTo pf [] hnil parseGlobal_nil lead s gs ts hlead hL.toLayoutTo hts
  have hspec := C13_spec pf (lead ++ s) gs s' hlg
  rcases hts with rfl | ⟨t, ts', rfl, hg⟩
  · cases hL'
    rw [hspec.1 rfl]
    have hc : climb pf [Token.test Test.true_] = .ok (.test .true_) [] :=
      climb_complete pf (GAtom.prim rfl).toList
    have he : expressionOf (gs.map Token.global ++ []) = [Token.test Test.true_] := by
      simp only [expressionOf, dropWhile_globals gs [], List.dropWhile_nil]
    rw [he, hc, List.append_nil]
  · have hlex : lex pf s' = .ok (t :: ts') [] :=
      lex_of_prefix pf s' t ts' (by rw [(hL'.head hnil).dropWhile]; exact hL'.lexPrefix hnil)
    exact hspec.2 (t :: ts') [] hL'.ne_nil hlex

/-- Two layouts of the same token sequence give identical results: the property's statement, for
    whole inputs. -/
theorem C06_layouts_agree (pf : Profile) (lead₁ s₁ lead₂ s₂ : Text) (gs : List GlobalOption) (ts : List Token)
    (h1 : ∀ c ∈ lead₁, isBlank c = true) (h2 : ∀ c ∈ lead₂, isBlank c = true)
    (l1 : Layout pf (gs.map Token.global ++ ts) s₁) (l2 : Layout pf (gs.map Token.global ++ ts) s₂)
    (hts : ts = [] ∨ ∃ t ts', ts = t :: ts' ∧ isGlobalTok t = false) :
    parse pf (lead₁ ++ s₁) = parse pf (lead₂ ++ s₂) := by
  rw [C06_layout pf lead₁ s₁ gs ts h1 l1 hts, C06_layout pf lead₂ s₂ gs ts h2 l2 hts]

/-- No option leaf (the parser never returns one: C13_no_option_node). -/
def NoOpt : Expr → Prop
  | .global _ => False
  | .not e | .prec e => NoOpt e
  | .and a b | .or a b | .list a b => NoOpt a ∧ NoOpt b
  | _ => True

theorem wrap_noGlobal (b : Bool) {ts : List Token} (h : ∀ t ∈ ts, isGlobalTok t = false) :
    ∀ t ∈ wrap b ts, isGlobalTok t = false := by
  cases b with
  | false => exact h
  | true => exact List.forall_mem_cons.2 ⟨rfl, List.forall_mem_append.2 ⟨h, by simp [isGlobalTok]⟩⟩

theorem spellAt_noGlobal (x : Bool) : ∀ (lvl : Nat) (e : Expr), NoOpt e → ∀ t ∈ spellAt x lvl e, isGlobalTok t = false
  | _, .and a b, h => by
    rw [spellAt]
    exact wrap_noGlobal _ (List.forall_mem_append.2 ⟨List.forall_mem_append.2
      ⟨spellAt_noGlobal x 2 a h.1, by cases x <;> simp [isGlobalTok]⟩, spellAt_noGlobal x 3 b h.2⟩)
  | _, .or a b, h => by
    rw [spellAt]
    exact wrap_noGlobal _ (List.forall_mem_append.2 ⟨List.forall_mem_append.2
      ⟨spellAt_noGlobal x 1 a h.1, by simp [isGlobalTok]⟩, spellAt_noGlobal x 2 b h.2⟩)
  | _, .list a b, h => by
    rw [spellAt]
    exact wrap_noGlobal _ (List.forall_mem_append.2 ⟨List.forall_mem_append.2
      ⟨spellAt_noGlobal x 0 a h.1, by simp [isGlobalTok]⟩, spellAt_noGlobal x 1 b h.2⟩)
  | _, .not a, h => by
    rw [spellAt]
    exact List.forall_mem_cons.2 ⟨rfl, spellAt_noGlobal x 3 a h⟩
  | lvl, .prec a, h => by rw [spellAt]; exact spellAt_noGlobal x lvl a h
  | _, .test _, _ | _, .action _, _ | _, .positional _, _ => by simp [spellAt, isGlobalTok]
  | _, .global _, h => h.elim

/-- `parse ∘ write = id`: every option-free tree without explicit-precedence nodes, written as its
    canonical token sequence (either AND spelling) in any layout, behind any leading options and
    blanks, parses to exactly that tree and those options. -/
theorem C06_layout_tree (pf : Profile) (x : Bool) (lead s : Text) (gs : List GlobalOption) (e : Expr)
    (hp : Plain e) (hn : NoOpt e) (hlead : ∀ c ∈ lead, isBlank c = true)
    (hL : Layout pf (gs.map Token.global ++ spell x e) s) :
    parse pf (lead ++ s) = .ok (optionsOf (gs.map Token.global)) e := by
  have hng : ∀ t ∈ spell x e, isGlobalTok t = false := spellAt_noGlobal x 0 e hn
  have hG := spell_sound x e hp
  obtain ⟨t, ts', hsp⟩ := List.exists_cons_of_ne_nil hG.ne_nil
  rw [C06_layout pf lead s gs (spell x e) hlead hL (Or.inr ⟨t, ts', hsp, hng t (hsp ▸ List.mem_cons_self ..)⟩),
    expressionOf_plain gs hG.ne_nil hng, optionsOf_plain _ hng, climb_complete pf hG]

theorem writes_punct (pf : Profile) :
    Writes pf (fun _ => True) .lparen (cl!"(") ∧ Writes pf (fun _ => True) .rparen (cl!")") ∧
    Writes pf (fun _ => True) .not (cl!"!") ∧ Writes pf (fun _ => True) .comma (cl!",") := by
  -- `token` starts with the rows of the table, so it looks the head of the input up there
  have w : ∀ (c : Char) (t : Token), isBlank c = false →
      (∀ tail, punctTable.find? (fun kv => isPrefix kv.1 (c :: tail)) = some ([c], t)) →
      Writes pf (fun _ => True) t [c] :=
    fun c t hc h => ⟨⟨c, [], rfl, hc⟩, fun tail _ => ⟨tail, (by
      show token pf (c :: tail) = .ok t tail
      rw [token_split, context_ok, alt_tokenFront, h tail]; rfl), rfl⟩⟩
  exact ⟨w _ _ rfl fun _ => rfl, w _ _ rfl fun _ => rfl, w _ _ rfl fun _ => rfl, w _ _ rfl fun _ => rfl⟩

theorem writes_operator (pf : Profile) :
    Writes pf BlankLed .and (cl!"-a") ∧ Writes pf BlankLed .and (cl!"-and") ∧
    Writes pf BlankLed .or (cl!"-o") ∧ Writes pf BlankLed .or (cl!"-or") :=
  ⟨⟨⟨'-', _, rfl, rfl⟩, fun tail ht => ⟨_, (token_operator pf ht).1, dropWhile_idem tail⟩⟩,
   ⟨⟨'-', _, rfl, rfl⟩, fun tail ht => ⟨_, (token_operator pf ht).2.1, dropWhile_idem tail⟩⟩,
   ⟨⟨'-', _, rfl, rfl⟩, fun tail ht => ⟨_, (token_operator pf ht).2.2.1, dropWhile_idem tail⟩⟩,
   ⟨⟨'-', _, rfl, rfl⟩, fun tail ht => ⟨_, (token_operator pf ht).2.2.2, dropWhile_idem tail⟩⟩⟩

def kwHeadOk (kws : List Text) : Bool := kws.all fun kw => match kw with | c :: _ => !isBlank c | [] => false
theorem globalKws_head : kwHeadOk globalKws = true := by decide

theorem writes_test_nullary (pf : Profile) (kw : Text) (t : Test) (hm : (kw, value t (lit kw)) ∈ testAlts pf) :
    Writes pf Follows (.test t) kw :=
  (keyword_test hm).writes_alone fun tail => ⟨tail, value_lit_append tail, rfl⟩

theorem writes_action_nullary (pf : Profile) (kw : Text) (a : Action)
    (hm : (kw, value a (terminated (lit kw) multispace0)) ∈ actionAlts pf) :
    Writes pf Follows (.action a) kw :=
  (keyword_action hm).writes_alone fun tail =>
    ⟨_, value_lit_blanks_append tail, dropWhile_idem tail⟩

theorem writes_test_unary {α : Type} (pf : Profile) (kw : Text) (tr : α → Test) (argp : P Char α)
    (hm : (kw, unary kw tr argp) ∈ testAlts pf) (ws a : Text) (ok : Text → Prop) (v : α)
    (hne : ws ≠ []) (hws : ∀ c ∈ ws, isBlank c = true) (ha : ArgWrites argp ok v a) :
    Writes pf ok (.test (tr v)) (kw ++ (ws ++ a)) :=
  (keyword_test hm).writes_unary hne hws ha

theorem writes_action_unary {α : Type} (pf : Profile) (kw : Text) (tr : α → Action) (argp : P Char α)
    (hm : (kw, unary kw tr argp) ∈ actionAlts pf) (ws a : Text) (ok : Text → Prop) (v : α)
    (hne : ws ≠ []) (hws : ∀ c ∈ ws, isBlank c = true) (ha : ArgWrites argp ok v a) :
    Writes pf ok (.action (tr v)) (kw ++ (ws ++ a)) :=
  (keyword_action hm).writes_unary hne hws ha

theorem argWrites_quoted {α : Type} {p : P Char α} {v : α} (q : Char) (hq : isBlank q = false) (s : Text)
    (h : ∀ tail, p (q :: (s ++ q :: tail)) = .ok v tail) : ArgWrites p (fun _ => True) v (q :: (s ++ [q])) :=
  ⟨⟨q, _, rfl, hq⟩, fun tail _ => ⟨tail, by rw [quoted_append]; exact h tail, rfl⟩⟩

theorem argWrites_word (s : Text) (hne : s ≠ []) :
    ((∀ c ∈ s, isWordChar c = true) → (∀ c r, s = c :: r → c ≠ '"' ∧ c ≠ '\'') → ArgWrites parseString WordStop s s) ∧
    ((∀ c ∈ s, c ≠ '\'') → ArgWrites parseString (fun _ => True) s ('\'' :: (s ++ [('\'')]))) ∧
    ((∀ c ∈ s, c ≠ '"') → ArgWrites parseString (fun _ => True) s ('"' :: (s ++ ['"']))) := by
  refine ⟨fun h1 h2 => ⟨?_, fun tail ht => ⟨tail, (C05_word_styles s tail hne).2.2 h1 h2 ht, rfl⟩⟩,
    fun h => argWrites_quoted '\'' rfl s fun tail => (C05_word_styles s tail hne).2.1 h,
    fun h => argWrites_quoted '"' rfl s fun tail => (C05_word_styles s tail hne).1 h⟩
  obtain ⟨c, r, rfl⟩ := List.exists_cons_of_ne_nil hne
  exact ⟨c, r, rfl, wordChar_not_blank (h1 c (List.mem_cons_self ..))⟩

theorem argWrites_cmp {α : Type} (p : P Char α) (ok : Text → Prop) (v : α) (a : Text)
    (hh : ∃ c r, a = c :: r ∧ isBlank c = false ∧ c ≠ '+' ∧ c ≠ '-') (ha : ArgWrites p ok v a) :
    ArgWrites (compFormat p) ok (.eq v) a ∧ ArgWrites (compFormat p) ok (.gt v) ('+' :: a) ∧
    ArgWrites (compFormat p) ok (.lt v) ('-' :: a) := by
  obtain ⟨c, r, rfl, hb, hp, hm⟩ := hh
  refine ⟨⟨⟨c, r, rfl, hb⟩, fun tail ht => ?_⟩, ⟨⟨'+', _, rfl, by decide⟩, fun tail ht => ?_⟩,
          ⟨⟨'-', _, rfl, by decide⟩, fun tail ht => ?_⟩⟩
  all_goals
    obtain ⟨r', hr, hd⟩ := ha.2 tail ht
    refine ⟨r', ?_, hd⟩
    simp only [List.cons_append] at hr ⊢
  · rw [compFormat_eq _ _ hp hm, hr]
  · exact compFormat_gt hr
  · exact compFormat_lt hr

theorem argWrites_uint (bound : Nat) (ds : Text) (hne : ds ≠ []) (hd : ∀ c ∈ ds, isDigit c = true)
    (hb : decVal ds < bound) : ArgWrites (parseUint bound) DigitStop (decVal ds) ds := by
  obtain ⟨c, r, rfl, hc, _⟩ := digits_head hne hd
  exact ⟨⟨c, r, rfl, hc⟩, fun tail ht => ⟨tail, by rw [parseUint_digits bound _ tail hne hd ht, if_pos hb], rfl⟩⟩

/-- Numbers: `N`, `+N`, `-N` with any number of leading zeros, below the bound of the field. -/
theorem argWrites_number (bound : Nat) (ds : Text) (hne : ds ≠ []) (hd : ∀ c ∈ ds, isDigit c = true)
    (hb : decVal ds < bound) :
    ArgWrites (compFormat (parseUint bound)) DigitStop (.eq (decVal ds)) ds ∧
    ArgWrites (compFormat (parseUint bound)) DigitStop (.gt (decVal ds)) ('+' :: ds) ∧
    ArgWrites (compFormat (parseUint bound)) DigitStop (.lt (decVal ds)) ('-' :: ds) :=
  argWrites_cmp _ _ _ ds (digits_head hne hd) (argWrites_uint bound ds hne hd hb)

/-- Format arguments (`-printf`): any quoting of a format the reference scanner segments. -/
theorem argWrites_format (pf : Profile) (fmt : Text) (els : List FormatElement) (hne : fmt ≠ [])
    (hseg : Spec.Printf.seg fmt = some els) :
    ((∀ c ∈ fmt, c ≠ '\'') → ArgWrites (formatArg pf) (fun _ => True) els ('\'' :: (fmt ++ ['\'']))) ∧
    ((∀ c ∈ fmt, c ≠ '"') → ArgWrites (formatArg pf) (fun _ => True) els ('"' :: (fmt ++ ['"']))) :=
  ⟨fun h => argWrites_quoted '\'' rfl fmt fun tail => formatArg_of_seg pf (quoteDelimiter_quoted (.inr rfl) fmt tail hne h) hseg,
   fun h => argWrites_quoted '"' rfl fmt fun tail => formatArg_of_seg pf (quoteDelimiter_quoted (.inl rfl) fmt tail hne h) hseg⟩

/-- The options, wherever they stand: `-depth`, and `-threads N` after any non-empty blank run. -/
theorem writes_depth (pf : Profile) : Writes pf Follows (.global .depth) (cl!"-depth") :=
  (keyword_global (p := value GlobalOption.depth (lit (cl!"-depth"))) (mem_of_lookup rfl)).writes_alone
    fun tail => ⟨tail, value_lit_append tail, rfl⟩

theorem writes_threads (pf : Profile) (ws ds : Text) (hne : ws ≠ []) (hws : ∀ c ∈ ws, isBlank c = true)
    (hd0 : ds ≠ []) (hd : ∀ c ∈ ds, isDigit c = true) (hb : decVal ds < 2 ^ 32) :
    Writes pf DigitStop (.global (.threads (decVal ds))) (cl!"-threads" ++ (ws ++ ds)) :=
  (keyword_global (p := unary (cl!"-threads") GlobalOption.threads parseU32) (mem_of_lookup rfl)).writes_unary hne hws
    (argWrites_uint (2 ^ 32) ds hd0 hd hb)

/-! A layout with mixed blanks, glued parentheses, a quoted word, a number with leading zeros, a
    leading and a misplaced option — and what `parse` computes on it behind one leading blank. -/
example : Layout .debug
    ([Token.global (.threads 4)] ++
      [Token.lparen, .test (.name (cl!"x y")), .or, .test (.userId (.gt 7)), .rparen, .global .depth, .action .print])
    (cl!"-threads\t04 (-name 'x y'\r\n-or -uid +007)-depth  -print") := by
  have w1 := writes_threads .debug (cl!"\t") (cl!"04") (by simp) (by decide) (by simp) (by decide) (by decide)
  have w3 := writes_test_unary .debug (cl!"-name") Test.name parseString (mem_of_lookup rfl) (cl!" ") (cl!"'x y'")
    (fun _ => True) (cl!"x y") (by simp) (by decide) ((argWrites_word (cl!"x y") (by simp)).2.1 (by decide))
  have w5 := writes_test_unary .debug (cl!"-uid") Test.userId cmpU32 (mem_of_lookup rfl) (cl!" ") (cl!"+007")
    DigitStop (.gt 7) (by simp) (by decide)
    ((argWrites_number (2 ^ 32) (cl!"007") (by simp) (by decide) (by decide)).2.1)
  have w8 := writes_action_nullary .debug (cl!"-print") Action.print (mem_of_lookup rfl)
  exact .cons (ws := cl!" ") w1 (by decide) (Or.inr ⟨' ', _, rfl, by decide⟩)
    (.cons (ws := []) (writes_punct .debug).1 (by simp) trivial
    (.cons (ws := cl!"\r\n") w3 (by decide) trivial
    (.cons (ws := cl!" ") (writes_operator .debug).2.2.2 (by decide) (Or.inr ⟨' ', _, rfl, by decide⟩)
    (.cons (ws := []) w5 (by simp) (Or.inr ⟨')', _, rfl, by decide⟩)
    (.cons (ws := []) (writes_punct .debug).2.1 (by simp) trivial
    (.cons (ws := cl!"  ") (writes_depth .debug) (by decide) (Or.inr ⟨' ', _, rfl, by decide⟩)
    (.cons (ws := []) w8 (by simp) (Or.inl rfl) .nil)))))))

example : parse .debug (cl!" -threads\t04 (-name 'x y'\r\n-or -uid +007)-depth  -print") =
    .ok { depth := true, threads := some 4 }
      (.and (.and (.or (.test (.name (cl!"x y"))) (.test (.userId (.gt 7)))) (.test .true_)) (.action .print)) := by decide +kernel

end FV

import FindVerif.Proofs.LayoutTo
import FindVerif.Theorems.C18
import FindVerif.Theorems.C06Layout
/-
  C18 for whole inputs written as layouts: in front of the primary whose argument is wrong there
  may be any layout of any token sequence (leading options in any layout included); the error
  names that primary and quotes the word where its reader stopped.
-/
namespace FV
open W Spec

theorem C18_layout_test_arg {α : Type} (pf : Profile) (lead s : Text) (gs : List GlobalOption) (pre : List Token)
    (kw : Text) (tr : α → Test) (argp : P Char α) (ws x : Text)
    (hlead : ∀ c ∈ lead, isBlank c = true)
    (hL : LayoutTo pf (kw ++ (ws ++ x)) (gs.map Token.global ++ pre) s)
    (hpre : pre = [] ∨ ∃ t ts', pre = t :: ts' ∧ isGlobalTok t = false)
    (hm : (kw, unary kw tr argp) ∈ testAlts pf) (hb : BlankRun ws x)
    (k : Bool) (cp : List Ctx) (rr : Text) (harg : argp x = .err k cp rr) (hben : Benign cp) :
    parse pf (lead ++ s) = .error (match innerDescription cp with
      | some d => .invalidTestArgument kw (nextWord rr) (explain d)
      | none => .invalidTestUnknown kw (nextWord rr)) := by
  obtain ⟨s', hlg, hp⟩ := layoutTo_reads ((keyword_test hm).noLead _) (parseGlobal_bt_kw kw (Or.inl ((testTable pf).mem hm)) _) hlead hL hpre
  exact C18_test_arg pf (lead ++ s) gs s' pre kw tr argp ws x hlg hp hm hb k cp rr harg hben

theorem C18_layout_action_arg {α : Type} (pf : Profile) (lead s : Text) (gs : List GlobalOption) (pre : List Token)
    (kw : Text) (tr : α → Action) (argp : P Char α) (ws x : Text)
    (hlead : ∀ c ∈ lead, isBlank c = true)
    (hL : LayoutTo pf (kw ++ (ws ++ x)) (gs.map Token.global ++ pre) s)
    (hpre : pre = [] ∨ ∃ t ts', pre = t :: ts' ∧ isGlobalTok t = false)
    (hm : (kw, unary kw tr argp) ∈ actionAlts pf) (hb : BlankRun ws x)
    (k : Bool) (cp : List Ctx) (rr : Text) (harg : argp x = .err k cp rr) (hben : Benign cp) :
    parse pf (lead ++ s) = .error (match innerDescription cp with
      | some d => .invalidActionArgument kw (nextWord rr) (explain d)
      | none => .invalidActionUnknown kw (nextWord rr)) := by
  obtain ⟨s', hlg, hp⟩ := layoutTo_reads ((keyword_action hm).noLead _) (parseGlobal_bt_kw kw (Or.inr ((actionTable pf).mem hm)) _) hlead hL hpre
  exact C18_action_arg pf (lead ++ s) gs s' pre kw tr argp ws x hlg hp hm hb k cp rr harg hben

/-! The hypotheses are met by a concrete input, and the conclusion is what `parse` computes on it. -/
example : ∃ k cp rr, cmpU32 (cl!"abc") = .err k cp rr ∧ Benign cp ∧ innerDescription cp = some (cl!"unsigned_integer") ∧
    nextWord rr = cl!"abc" :=
  ⟨_, _, _, rfl, benign_of_labels _ (by intro l hl; simp [label, expected] at hl; exact Or.inl hl), by decide, by decide⟩

example : LayoutTo .debug (cl!"-uid" ++ (cl!" " ++ cl!"abc"))
    ([Token.global (.threads 2)] ++ [Token.lparen, .test (.name (cl!"x")), .rparen])
    (cl!"-threads 2 (-name x) -uid abc") := by
  have w1 := writes_threads .debug (cl!" ") (cl!"2") (by simp) (by decide) (by simp) (by decide) (by decide)
  have w3 := writes_test_unary .debug (cl!"-name") Test.name parseString (mem_of_lookup rfl) (cl!" ") (cl!"x")
    WordStop (cl!"x") (by simp) (by decide) ((argWrites_word (cl!"x") (by simp)).1 (by decide) (by intro c r h; injection h with h1 _; subst h1; decide))
  exact .cons (ws := cl!" ") w1 (by decide) (Or.inr ⟨' ', _, rfl, by decide⟩)
    (.cons (ws := []) (writes_punct .debug).1 (by simp) trivial
    (.cons (ws := []) w3 (by simp) (Or.inr ⟨')', _, rfl, by decide⟩)
    (.cons (ws := cl!" ") (writes_punct .debug).2.1 (by decide) trivial .nil)))

example : parse .debug (cl!"  -threads 2 (-name x) -uid abc") =
    .error (.invalidTestArgument (cl!"-uid") (cl!"abc") (cl!"Expected an unsigned integer")) := by decide +kernel

end FV

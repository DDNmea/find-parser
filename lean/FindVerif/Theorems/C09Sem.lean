import FindVerif.Theorems.C02
/-
  C09, semantic half: what the compiled policy writes, on top of C02.
-/
namespace FV
open Scheme Spec

/-- No output, no stop request. -/
def Quiet (o : Outcome) : Prop := (∃ b, o = .done b []) ∨ o = .undefined

theorem Quiet.negate {o : Outcome} (h : Quiet o) : Quiet o.negate := by
  rcases h with ⟨b, rfl⟩ | rfl
  · exact .inl ⟨!b, rfl⟩
  · exact .inr rfl

theorem Quiet.andThen {x y : Outcome} (hx : Quiet x) (hy : Quiet y) : Quiet (x.andThen y) := by
  rcases hx with ⟨_ | _, rfl⟩ | rfl
  · exact .inl ⟨false, rfl⟩
  · rcases hy with ⟨b, rfl⟩ | rfl
    · exact .inl ⟨b, rfl⟩
    · exact .inr rfl
  · exact .inr rfl

theorem Quiet.orElse {x y : Outcome} (hx : Quiet x) (hy : Quiet y) : Quiet (x.orElse y) := by
  rcases hx with ⟨_ | _, rfl⟩ | rfl
  · rcases hy with ⟨b, rfl⟩ | rfl
    · exact .inl ⟨b, rfl⟩
    · exact .inr rfl
  · exact .inl ⟨true, rfl⟩
  · exact .inr rfl

theorem noAction_outcome (rt : Rt) (now : Nat) : ∀ (e : Expr) (f : File), e.hasAction = false →
    (∃ b, evalFind rt now e f = .done b []) ∨ evalFind rt now e f = .undefined := by
  intro e f
  induction e with
  | test t => intro _; simp only [evalFind]; cases testHolds rt now t f <;> simp
  | action a => intro h; cases h
  | global g | positional p => intro _; exact .inr rfl
  | prec e ih => exact ih
  | not e ih => intro h; exact Quiet.negate (ih h)
  | and a b iha ihb | list a b iha ihb =>
    intro h
    simp only [Expr.hasAction, Bool.or_eq_false_iff] at h
    exact Quiet.andThen (iha h.1) (ihb h.2)
  | or a b iha ihb =>
    intro h
    simp only [Expr.hasAction, Bool.or_eq_false_iff] at h
    exact Quiet.orElse (iha h.1) (ihb h.2)

/-- No action anywhere: the compiled policy run on a file writes exactly one record — the file's
    path, newline-terminated, on standard output — when the expression is true of the file, and
    nothing when it is false.  `hb` only names the truth value: by `noAction_outcome` an action-free
    tree has an outcome of this form or none. -/
theorem C09_prints_exactly_when_true (rt : Rt) (file : File) (clk : Nat → Nat) (now : Nat) (e : Expr) (ps : ProgramS)
    (hclk : ∀ i, clk i = now) (hc : compileS clk e = .ok ps) (htags : TagsAreChars ps)
    (hna : e.hasAction = false) (b : Bool) (hb : evalFind rt now e file = .done b []) :
    runPolicy rt file ps.ioMap ps.bindings ps.body =
      .outcome (.done b (if b then [⟨.stdout, file.relPath, some '\n'⟩] else [])) := by
  have hpt : policyTree e = Expr.and e (.action .defaultPrint) := by simp [policyTree, hna]
  have hev : evalFind rt now (policyTree e) file = .done b (if b then [⟨.stdout, file.relPath, some '\n'⟩] else []) := by
    rw [hpt]
    simp only [evalFind, hb]
    cases b <;> rfl
  rw [← hev]
  exact C02_translation_validity rt file clk now e ps hclk hc htags (by rw [hev]; simp)

/-- An action somewhere: nothing is added — the policy's outcome is find's outcome for the tree
    as written. -/
theorem C09_nothing_added (rt : Rt) (file : File) (clk : Nat → Nat) (now : Nat) (e : Expr) (ps : ProgramS)
    (hclk : ∀ i, clk i = now) (hc : compileS clk e = .ok ps) (htags : TagsAreChars ps)
    (ha : e.hasAction = true) (hdef : evalFind rt now e file ≠ .undefined) :
    runPolicy rt file ps.ioMap ps.bindings ps.body = .outcome (evalFind rt now e file) := by
  have hpt : policyTree e = e := by simp [policyTree, ha]
  have := C02_translation_validity rt file clk now e ps hclk hc htags (by rw [hpt]; exact hdef)
  rwa [hpt] at this

end FV

import FindVerif.Proofs.CompileRun
import FindVerif.Model.Parse
/-
  C15 — parsing and compiling are deterministic functions of their input (PARTIAL: process-level
  facets by correspondence).  In the model, `parse` and `compile` are functions of (profile, text)
  and of (clock readings, tree, options): there is no other input — no hash order (maps are
  association lists used for lookup only), no global state.  Proved: the clock is read exactly
  once per time test (`Emits.reads`, `C15_embedded`); nothing else depends on the clock.  That the
  implementation agrees with this model across histories and processes (hash seeds!) is what the
  correspondence run checks.
-/
namespace FV

/-- Number of clock reads: one per time test. -/
def timeTests : Expr → Nat
  | .test (.accessTime _) | .test (.changeTime _) | .test (.modifyTime _) => 1
  | .prec e | .not e => timeTests e
  | .and a b | .or a b | .list a b => timeTests a + timeTests b
  | _ => 0

/-- The i-th time test embeds the i-th clock reading, and advances the counter by one. -/
theorem C15_embedded (clk : Nat → Nat) (st : CState) (c : Comparison TimeSpec) :
    compileTest clk (.accessTime c) st = .ok (compileTimeComp (clk st.reads) (cl!"atime") c, { st with reads := st.reads + 1 }) ∧
    compileTest clk (.changeTime c) st = .ok (compileTimeComp (clk st.reads) (cl!"ctime") c, { st with reads := st.reads + 1 }) ∧
    compileTest clk (.modifyTime c) st = .ok (compileTimeComp (clk st.reads) (cl!"mtime") c, { st with reads := st.reads + 1 }) :=
  ⟨rfl, rfl, rfl⟩

theorem timeTests_test (t : Test) : timeTests (.test t) = if isTimeTest t then 1 else 0 := by
  cases t <;> rfl

theorem Emits.reads {clk : Nat → Nat} {e : Expr} {st st' : CState} {txt : Text} (h : Emits clk e st txt st') :
    st'.reads = st.reads + timeTests e := by
  induction h with
  | test h =>
    rw [timeTests_test]
    rcases compileTest_ok h with ⟨hk, rfl⟩ | ⟨hk, rfl | ⟨s, ci, rfl⟩⟩ <;> rw [hk] <;> rfl
  | action h => rcases compileAction_ok h with ⟨_, rfl⟩ | ⟨tg, _, rfl⟩ <;> rfl
  | not _ ih => exact ih
  | and _ _ iha ihb | list _ _ iha ihb | or _ _ iha ihb => simp only [timeTests]; omega

theorem compileExpr_clock (clk₁ clk₂ : Nat → Nat) (e : Expr) (st : CState)
    (h : ∀ i, st.reads ≤ i → i < st.reads + timeTests e → clk₁ i = clk₂ i) :
    compileExpr clk₁ e st = compileExpr clk₂ e st := by
  induction e generalizing st with
  | test t =>
    cases t with
    | accessTime c | changeTime c | modifyTime c =>
      -- the one reading such a test takes is `clk st.reads` (`C15_embedded`)
      show CRes.ok (compileTimeComp (clk₁ st.reads) _ c, _) = CRes.ok (compileTimeComp (clk₂ st.reads) _ c, _)
      rw [h _ (Nat.le_refl _) (by simp [timeTests])]
    | _ => rfl
  | action a | global g | positional p | prec e _ => rfl
  | not e ih => rw [compileExpr_not, compileExpr_not, ih st h]
  | and a b iha ihb | list a b iha ihb | or a b iha ihb =>
    simp only [timeTests] at h
    simp only [compileExpr_and, compileExpr_list, compileExpr_or, iha st fun i h1 h2 => h i h1 (by omega)]
    refine CRes.thenOk_congr fun tl s1 h1 => ?_
    have hr := (Emits.of_ok h1).reads
    exact ihb s1 fun i h2 h3 => h i (by omega) (by omega)

/-- Compiling equal inputs gives equal results except for the embedded clock: two clocks that
    agree on the readings actually consumed give identical results; without a time test the
    clock does not matter at all. -/
theorem C15_clock_only (clk₁ clk₂ : Nat → Nat) (e : Expr) (o : RunOptions)
    (h : ∀ i, i < timeTests e → clk₁ i = clk₂ i) : compile clk₁ e o = compile clk₂ e o := by
  have ht : timeTests (policyTree e) = timeTests e := by
    unfold policyTree; split <;> simp [timeTests]
  rw [compile_eq, compile_eq, compileExpr_clock clk₁ clk₂ (policyTree e) _ fun i _ hi => h i (by simpa [ht] using hi)]

theorem C15_no_time_test (clk₁ clk₂ : Nat → Nat) (e : Expr) (o : RunOptions) (h : timeTests e = 0) :
    compile clk₁ e o = compile clk₂ e o :=
  C15_clock_only clk₁ clk₂ e o (fun i hi => by omega)

/-- Congruence of `parse`, which holds of any function: that parsing has no input besides profile and
    text is the type of `parse`, not this statement. -/
theorem C15_parse_function (pf : Profile) (s₁ s₂ : Text) (h : s₁ = s₂) : parse pf s₁ = parse pf s₂ := by rw [h]

example : timeTests (.and (.test (.accessTime (.eq (.minute 5)))) (.not (.test (.modifyTime (.gt (.day 1)))))) = 2 := by decide +kernel

end FV

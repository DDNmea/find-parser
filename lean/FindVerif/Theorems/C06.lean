import FindVerif.Proofs.LayoutTo
import FindVerif.Theorems.C05
import FindVerif.Theorems.C13
/-
  C06 — equivalent spellings give identical results: the single spellings, for all inputs / blank
  runs / values and both profiles.  The statement for whole inputs (every layout of every token
  sequence, `parse ∘ write = id`) is in Theorems/C06Layout.lean.
  On the implementation the run compares 2000/20000 random expressions in 16/64 layout variants each.
-/
namespace FV
open W Spec

/-- An empty or blank input means the same as `-true`. -/
theorem C06_blank (pf : Profile) (s : Text) (h : ∀ c ∈ s, isBlank c = true) :
    parse pf s = .ok {} (.test .true_) := by
  -- a blank input is blanks in front of the empty layout: no options, nothing left
  obtain ⟨s', h1, hL⟩ := leadingGlobals_layoutTo pf [] .nil parseGlobal_nil s [] [] [] h .nil (Or.inl rfl)
  cases hL
  rw [List.append_nil] at h1
  exact (C13_spec pf s [] [] h1).1 rfl

/-- The result of `parse` depends only on the leading options and on the sequence of tokens the lexer
    reads — not on the amount or kind of blank space between or around them. -/
theorem C06_tokens_only (pf : Profile) (s₁ s₂ : Text) (gs : List GlobalOption) (rest₁ rest₂ : Text)
    (t : Token) (ts : List Token)
    (h1 : leadingGlobals pf s₁ = .ok gs rest₁) (h2 : leadingGlobals pf s₂ = .ok gs rest₂)
    (l1 : LexPrefix pf (rest₁.dropWhile isBlank) (t :: ts) [])
    (l2 : LexPrefix pf (rest₂.dropWhile isBlank) (t :: ts) []) :
    parse pf s₁ = parse pf s₂ := by
  have n1 : rest₁ ≠ [] := fun he => l1.ne_nil (by rw [he]; rfl)
  have n2 : rest₂ ≠ [] := fun he => l2.ne_nil (by rw [he]; rfl)
  rw [(C13_spec pf s₁ gs rest₁ h1).2 (t :: ts) [] n1 (lex_of_prefix pf rest₁ t ts l1),
    (C13_spec pf s₂ gs rest₂ h2).2 (t :: ts) [] n2 (lex_of_prefix pf rest₂ t ts l2)]

/-- Between a keyword and its argument any non-empty mix of space, tab, CR and LF is the same. -/
theorem C06_gap_kinds {α : Type} (pf : Profile) (kw : Text) (tr : α → Test) (argp : P Char α)
    (hm : (kw, unary kw tr argp) ∈ testAlts pf) (ws₁ ws₂ x : Text) (b1 : BlankRun ws₁ x) (b2 : BlankRun ws₂ x)
    (hnp : ∀ s, argp x ≠ .panic s) :
    token pf (kw ++ (ws₁ ++ x)) = token pf (kw ++ (ws₂ ++ x)) := by
  -- `hnp` is not needed: a panic of the reader is a panic of the token on either side
  rw [(keyword_test hm).token_unary b1, (keyword_test hm).token_unary b2]

/-- `-a` = `-and`, `-o` = `-or` (followed by any blank, or at the end of input). -/
theorem C06_synonyms (pf : Profile) (c : Char) (r : Text) (h : isBlank c = true) :
    token pf (cl!"-a" ++ c :: r) = .ok .and (r.dropWhile isBlank) ∧
    token pf (cl!"-and" ++ c :: r) = .ok .and (r.dropWhile isBlank) ∧
    token pf (cl!"-o" ++ c :: r) = .ok .or (r.dropWhile isBlank) ∧
    token pf (cl!"-or" ++ c :: r) = .ok .or (r.dropWhile isBlank) ∧
    token pf (cl!"-a") = .ok .and [] ∧ token pf (cl!"-and") = .ok .and [] ∧
    token pf (cl!"-o") = .ok .or [] ∧ token pf (cl!"-or") = .ok .or [] := by
  have h1 := token_operator pf (tail := c :: r) (Or.inr ⟨c, r, rfl, h⟩)
  have h0 := token_operator pf (tail := []) (Or.inl rfl)
  simp only [List.dropWhile_cons, h, if_true] at h1
  exact ⟨h1.1, h1.2.1, h1.2.2.1, h1.2.2.2, h0.1, h0.2.1, h0.2.2.1, h0.2.2.2⟩

/-- Quoting style of an argument: the same value bare, single- or double-quoted. -/
theorem C06_quoting (s rest : Text) (hne : s ≠ []) :
    ((∀ c ∈ s, c ≠ '"') → parseString ('"' :: (s ++ '"' :: rest)) = .ok s rest) ∧
    ((∀ c ∈ s, c ≠ '\'') → parseString ('\'' :: (s ++ '\'' :: rest)) = .ok s rest) ∧
    ((∀ c ∈ s, isWordChar c = true) → (∀ c r, s = c :: r → c ≠ '"' ∧ c ≠ '\'') → WordStop rest →
      parseString (s ++ rest) = .ok s rest) := C05_word_styles s rest hne

/-- Redundant parentheses around any operand (an atom, or a whole sub-expression) leave no node. -/
theorem C06_parens (pf : Profile) (ts : List Token) (e : Expr) (h : GList ts e) :
    climb pf (Token.lparen :: (ts ++ [Token.rparen])) = .ok e [] ∧
    climb pf (Token.lparen :: Token.lparen :: (ts ++ [Token.rparen, Token.rparen])) = .ok e [] := by
  have p1 : GAtom (Token.lparen :: (ts ++ [Token.rparen])) e := .paren h
  have p2 : GAtom (Token.lparen :: ((Token.lparen :: (ts ++ [Token.rparen])) ++ [Token.rparen])) e :=
    .paren p1.toList
  refine ⟨climb_complete pf p1.toList, ?_⟩
  have := climb_complete pf p2.toList
  simpa using this

example : parse .debug (cl!"-name x -a ( -uid 5 -o -print )") = parse .debug (cl!"\t-name 'x'\r\n-and\n(-uid   5\t-or -print)  ") := by decide +kernel
example : parse .debug (cl!"-name x -uid 5") = parse .debug (cl!"( ( -name \"x\" ) ) ( -uid 5 )") := by decide +kernel

end FV

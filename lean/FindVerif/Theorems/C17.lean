import FindVerif.Theorems.C03
import FindVerif.Proofs.ParseProfile
/-
  C17 — debug and release builds behave identically (logic part).
  The only profile-dependent behaviour left in the crate is winnow's `ErrMode::assert` (panic with
  debug assertions, `Cut` error without), modelled by the `Profile` parameter of the looping
  combinators; code generation has no profile-dependent branch or overflow-dependent arithmetic
  (the model of `compile`/`scheme`/`io_map` takes no profile: the u128 size product
  cannot overflow, the positional option is refused in both profiles, and the `u32` counter
  `var_index` would need 2^32 registrations to wrap).  The theorem: the whole observable run is
  the same function in both profiles, for every input, clock and device path.
-/
namespace FV

/-- Everything a caller can observe from one run: parse result; then program text and table,
    or the compile error. -/
inductive RunObs where
  | parseError (e : ParseError)
  | compileError (o : RunOptions) (e : Expr) (x : CompileError)
  | program (o : RunOptions) (e : Expr) (text : Text) (table : Option (List (Nat × Target)))
  | panic
  deriving DecidableEq

def run (pf : Profile) (clk : Nat → Nat) (mdt : Text) (s : Text) : RunObs :=
  match parse pf s with
  | .error e => .parseError e
  | .panic _ => .panic
  | .ok o e =>
    match compile clk e o with
    | .ok c => .program o e (c.scheme mdt) c.ioMap
    | .err x => .compileError o e x
    | .panic _ => .panic

theorem C17 (clk : Nat → Nat) (mdt s : Text) : run .debug clk mdt s = run .release clk mdt s := by
  unfold run
  rw [parse_profile]

theorem C17_no_panic (pf : Profile) (clk : Nat → Nat) (mdt s : Text) : run pf clk mdt s ≠ .panic := by
  unfold run
  rcases C03_parse pf s with ⟨o, e, h⟩ | ⟨err, h⟩
  · rw [h]
    rcases C03_compile pf s o e clk h with ⟨c, hc⟩ | ⟨x, hc⟩ <;> simp [hc]
  · simp [h]

example : run .debug (fun _ => 7) (cl!"/dev/x") (cl!"nope") = run .release (fun _ => 7) (cl!"/dev/x") (cl!"nope") := C17 _ _ _
example : run .debug (fun _ => 7) (cl!"/") (cl!"nope")
    = .compileError {} (.positional .xdev) (.unsupportedOption (cl!"XDev")) := by decide +kernel

end FV

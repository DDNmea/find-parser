import FindVerif.Proofs.Dec
import FindVerif.Proofs.LexArgs
import FindVerif.Proofs.CompileRun
/-
  C07 — numbers are exact or rejected; nothing wraps, truncates or saturates.
  Reading: for all digit strings (any length, leading zeros) and all continuations.  Emission: the
  constants for ids, counts and sizes in all three comparisons, for times in the equality comparison
  only, are decimal renderings of values computed in unbounded arithmetic.
-/
namespace FV
open W

/-- The unsigned reader: exact value below the bound, rejection (input untouched) otherwise. -/
theorem C07_read (bound : Nat) (ds rest : Text) (hne : ds ≠ []) (hd : ∀ c ∈ ds, isDigit c = true)
    (hs : DigitStop rest) :
    parseUint bound (ds ++ rest) =
      if decVal ds < bound then .ok (decVal ds) rest
      else .err false [expected (cl!"unsigned_integer")] (ds ++ rest) :=
  parseUint_digits bound ds rest hne hd hs

/-- A value beyond the range of its field never appears as a different number: whatever the reader
    returns is the decimal value of the digits it consumed. -/
theorem C07_never_another (bound : Nat) (ds rest : Text) (hne : ds ≠ []) (hd : ∀ c ∈ ds, isDigit c = true)
    (hs : DigitStop rest) (v : Nat) (r : Text) (h : parseUint bound (ds ++ rest) = .ok v r) :
    v = decVal ds ∧ v < bound ∧ r = rest := by
  rw [C07_read bound ds rest hne hd hs] at h
  by_cases hb : decVal ds < bound
  · simp [hb] at h; exact ⟨h.1.symm, h.1 ▸ hb, h.2.symm⟩
  · simp [hb] at h

/-- `N`, `+N`, `-N`: the sign selects the comparison, the value is carried unchanged. -/
theorem C07_comparison (bound : Nat) (ds rest : Text) (hne : ds ≠ []) (hd : ∀ c ∈ ds, isDigit c = true)
    (hs : DigitStop rest) (hb : decVal ds < bound) :
    compFormat (parseUint bound) ('+' :: ds ++ rest) = .ok (.gt (decVal ds)) rest ∧
    compFormat (parseUint bound) ('-' :: ds ++ rest) = .ok (.lt (decVal ds)) rest ∧
    compFormat (parseUint bound) (ds ++ rest) = .ok (.eq (decVal ds)) rest := by
  have hr : parseUint bound (ds ++ rest) = .ok (decVal ds) rest := by rw [C07_read bound ds rest hne hd hs, if_pos hb]
  refine ⟨compFormat_gt hr, compFormat_lt hr, ?_⟩
  obtain ⟨d, ds', rfl⟩ := List.exists_cons_of_ne_nil hne
  obtain ⟨hplus, hminus⟩ := digit_not_sign (hd d (by simp))
  rw [List.cons_append] at hr ⊢
  rw [compFormat_eq _ _ hplus hminus, hr]

/-- Decimal rendering (what the generator prints) is inverted by decimal reading. -/
theorem C07_print_read (n : Nat) : decVal (natToDec n) = n ∧ (∀ c ∈ natToDec n, isDigit c = true) ∧ natToDec n ≠ [] :=
  ⟨decVal_natToDec n, natToDec_digits n, natToDec_ne_nil n⟩

/-- Ids and counts are emitted as the decimal rendering of the value in the tree. -/
theorem C07_emit_count (c : Comparison Nat) (target : Text) :
    formatCmp c target = (match c with | .gt _ => cl!"(> (" | .lt _ => cl!"(< (" | .eq _ => cl!"(= (")
      ++ target ++ cl!") " ++ natToDec c.val ++ cl!")" := by
  cases c <;> rfl

/-- Sizes are emitted as count × unit in unbounded arithmetic (no wrap, no saturation), next to
    the unit they are rounded to. -/
theorem C07_emit_size (s : Size) :
    compileSizeComp (.eq s) = cl!"(= (" ++ sizeMatching s ++ cl!") " ++ natToDec (s.count * s.mult) ++ cl!")" ∧
    compileSizeComp (.gt s) = cl!"(> (" ++ sizeMatching s ++ cl!") " ++ natToDec (s.count * s.mult) ++ cl!")" ∧
    compileSizeComp (.lt s) = cl!"(< (" ++ sizeMatching s ++ cl!") " ++ natToDec (s.count * s.mult) ++ cl!")" :=
  ⟨rfl, rfl, rfl⟩

/-- A time compared for equality (`N` without sign) is emitted as the count unchanged, next to the
    unit's seconds and the clock reading.  (The `+N` / `-N` forms are not stated.) -/
theorem C07_emit_time (now : Nat) (field : Text) (t : TimeSpec) :
    compileTimeComp now field (.eq t) = cl!"(= (quotient (- " ++ natToDec now ++ cl!" (" ++ field ++ cl!")) "
      ++ natToDec t.secs ++ cl!") " ++ natToDec t.count ++ cl!")" := by
  show formatCmp2 _ _ _ = _
  simp only [formatCmp2, nat, List.append_assoc]; rfl

/-- The thread count is emitted as the decimal rendering of the option's value. -/
theorem C07_emit_threads (clk : Nat → Nat) (e : Expr) (n : Nat) (c : Compiled)
    (h : compile clk e { depth := false, threads := some n } = .ok c) : c.options = natToDec n := by
  obtain ⟨_, _, _, _, _, _, ho⟩ := compile_unfold clk e _ c h
  exact ho

/-! The u32 boundary from both sides (below it with leading zeros), the u64 product. -/
example : parseUint (2^32) (cl!"4294967296") = .err false [expected (cl!"unsigned_integer")] (cl!"4294967296") := by decide +kernel
example : parseUint (2^32) (cl!"0004294967295 x") = .ok 4294967295 (cl!" x") := by decide +kernel
example : (Size.word 18446744073709551615).count * (Size.word 18446744073709551615).mult = 36893488147419103230 := by decide +kernel

end FV

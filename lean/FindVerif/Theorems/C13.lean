import FindVerif.Proofs.Options
import FindVerif.Proofs.ParsePlain
import FindVerif.Proofs.CompileRun
/-
  C13 — global options are honoured wherever they appear.
  `Spec.optionsOf` / `Spec.expressionOf` (Spec/Options.lean) say, over the whole token sequence:
  every option counts, the last occurrence of each wins; the leading run of options is dropped
  (an empty rest is `-true`), every other option behaves as `-true`.  The model of `_parse`
  handles options in two phases (a leading loop over the text, then a sweep over the lexed
  tokens); the theorem says the two phases together compute exactly the spec's single
  definition, for every input on which the lexer succeeds, and that no option reaches the tree.
-/
namespace FV
open Spec W

/-- The result of `parse`, given what its two lexing phases read. -/
theorem C13_spec (pf : Profile) (s : Text) (gs : List GlobalOption) (rest : Text)
    (h1 : leadingGlobals pf s = .ok gs rest) :
    (rest = [] → parse pf s = .ok (optionsOf (gs.map Token.global)) (.test .true_)) ∧
    (∀ ts r', rest ≠ [] → lex pf rest = .ok ts r' →
      parse pf s =
        match climb pf (expressionOf (gs.map Token.global ++ ts)) with
        | .ok e _ => .ok (optionsOf (gs.map Token.global ++ ts)) e
        | .err _ c _ => .error (dispatch c r')
        | .panic x => .panic x) := by
  rw [parse_eq, h1]
  refine ⟨?_, ?_⟩
  · rintro rfl
    have hc : climb pf [Token.test Test.true_] = .ok (.test .true_) [] := climb_complete pf (GAtom.prim rfl).toList
    simp [untrue, isGlobalTok, hc, optionsOf, List.foldl_append]
  · intro ts r' hre hlex
    have hne : rest.isEmpty = false := by cases rest <;> simp_all
    simp only [hne, Bool.false_eq_true, if_false, hlex, expressionOf_lexed h1 hlex]
    cases climb pf (ts.map untrue) <;> rfl

theorem C13_no_option_node (pf : Profile) (s : Text) (o : RunOptions) (e : Expr) (h : parse pf s = .ok o e) :
    plainB e = true := by
  obtain ⟨_, _, ts, _, _, _, _, hc, _⟩ := parse_of_ok h
  refine plainB_list (climb_sound pf hc).2 fun t ht g hg => ?_
  obtain ⟨u, _, rfl⟩ := List.mem_map.1 ht
  simpa [hg, isGlobalTok] using untrue_not_global u

/-- Last occurrence wins: the options of a sequence are a left fold. -/
theorem C13_last_wins (ts : List Token) (n m : Nat) :
    (optionsOf (ts ++ [Token.global (.threads n), Token.global (.threads m)])).threads = some m ∧
    (optionsOf (ts ++ [Token.global .depth])).depth = true := by
  simp [optionsOf, List.foldl_append, applyOption]

/-- The emitted scan call uses the requested thread count, or the runtime's default. -/
theorem C13_threads (clk : Nat → Nat) (e : Expr) (o : RunOptions) (c : Compiled) (h : compile clk e o = .ok c) :
    c.options = match o.threads with
      | some n => natToDec n
      | none => cl!"(lipe-getopt-thread-count)" := by
  obtain ⟨_, _, _, _, _, _, ho⟩ := compile_unfold clk e o c h
  exact ho

/-! Options at the front, in the middle, inside parentheses and after `!`. -/
example : parse .debug (cl!"-threads 4 -name x -threads 7") =
    .ok { depth := false, threads := some 7 } (.and (.test (.name ['x'])) (.test .true_)) := by decide +kernel
example : parse .debug (cl!"! -depth ( -threads 2 -name x )") =
    .ok { depth := true, threads := some 2 } (.and (.not (.test .true_)) (.and (.test .true_) (.test (.name ['x'])))) := by decide +kernel
example : parse .release (cl!" -depth ") = .ok { depth := true, threads := none } (.test .true_) := by decide +kernel

end FV

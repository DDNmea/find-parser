import FindVerif.Proofs.LexToken
import FindVerif.Proofs.LexArgs
import FindVerif.Theorems.C14
/-
  C05 — every primary and its argument language is recognised exactly: the token level.  For every
  entry of the keyword tables, every admissible continuation and both profiles:
    * `token` on `keyword …` reaches that keyword's alternative — no earlier alternative of the
      `alt` chains (punctuation, the operator words `-a -and -o -or`, other keywords, in particular
      prefixes or extensions of it) captures or shadows it (`C05_test_*`, `C05_action_*`, through
      `keyword_test` / `keyword_action`; the checks on the tables they rest on are stated as
      `C05_order_safe`, `C05_keyword_chars`, `C05_front_safe`, `C05_cross_safe`);
    * after an argument-taking keyword the token is decided by the argument reader alone: success
      gives exactly `node (value)`, any failure makes the token a hard error carrying the keyword
      (so the whole input is rejected, never partly used);
    * the argument readers are exact on their languages: numbers (C07), format strings (C14),
      words in the three quoting styles (`C05_word_styles`), modes (C08).
  The `C05_*_family` theorems are instances at keywords that are prefixes of others.  The two-argument
  keywords `-fprintf` and `-xattr-match` are instances of `writes_action_binary` / `writes_test_binary`
  (Theorems/C06Args.lean).  Whole inputs of several tokens are covered by `C06_layout`
  (Theorems/C06Layout.lean), for which the `writes_*` / `argWrites_*` theorems there, in
  Theorems/C06Args.lean and in Theorems/C08Text.lean supply every keyword with every argument reader.
-/
namespace FV
open W

/-- Table facts, checked on the model's tables: no keyword is shadowed by an earlier one, no
    keyword contains a character that may follow a primary, no keyword can be mistaken for
    punctuation or an operator word. -/
theorem C05_order_safe : orderSafe testKws = true ∧ orderSafe actionKws = true :=
  ⟨testKws_ok.order, actionKws_ok.order⟩
theorem C05_keyword_chars : kwCharsOk testKws = true ∧ kwCharsOk actionKws = true :=
  ⟨testKws_ok.chars, actionKws_ok.chars⟩
theorem C05_front_safe : frontOk testKws = true ∧ frontOk actionKws = true ∧ frontOk globalKws = true :=
  ⟨testKws_ok.front, actionKws_ok.front, globalKws_ok.front⟩
/-- No keyword of an earlier table is a prefix of one of a later table.  (The converse directions are the
    second halves of `test_action_cross`, `test_global_cross`, `action_global_cross`.) -/
theorem C05_cross_safe : crossSafe testKws actionKws = true ∧ crossSafe testKws globalKws = true ∧
    crossSafe actionKws globalKws = true := ⟨test_action_cross.1, test_global_cross.1, action_global_cross.1⟩

/-- An argument-taking test: keyword, blanks, then the argument reader decides.  The `.panic` arm says
    nothing (its right side is the left side): that no argument reader panics is C03, and that a panic
    of the reader would be one of the token is `Keyword.token_unary`. -/
theorem C05_test_unary {α : Type} (pf : Profile) (kw : Text) (tr : α → Test) (argp : P Char α)
    (hm : (kw, unary kw tr argp) ∈ testAlts pf) (ws x : Text) (h : BlankRun ws x) :
    token pf (kw ++ (ws ++ x)) =
      match argp x with
      | .ok v r => .ok (.test (tr v)) r
      | .err _ c r => .err true (c ++ [label kw, label (cl!"test"), label (cl!"syntax")]) r
      | .panic s => token pf (kw ++ (ws ++ x)) := by
  have ht := (keyword_test hm).token_unary h
  cases ha : argp x with
  | ok _ _ | err _ _ _ => rw [ht, ha]
  | panic _ => rfl

theorem C05_test_nullary (pf : Profile) (kw : Text) (t : Test) (hm : (kw, value t (lit kw)) ∈ testAlts pf)
    (tail : Text) (hf : Follows tail) : token pf (kw ++ tail) = .ok (.test t) tail := by
  rw [(keyword_test hm).token_eq hf, value_lit_append]

/-- An argument-taking action (the `.panic` arm as in `C05_test_unary`). -/
theorem C05_action_unary {α : Type} (pf : Profile) (kw : Text) (tr : α → Action) (argp : P Char α)
    (hm : (kw, unary kw tr argp) ∈ actionAlts pf) (ws x : Text) (h : BlankRun ws x) :
    token pf (kw ++ (ws ++ x)) =
      match argp x with
      | .ok v r => .ok (.action (tr v)) r
      | .err _ c r => .err true (c ++ [label kw, label (cl!"action"), label (cl!"syntax")]) r
      | .panic s => token pf (kw ++ (ws ++ x)) := by
  have ht := (keyword_action hm).token_unary h
  cases ha : argp x with
  | ok _ _ | err _ _ _ => rw [ht, ha]
  | panic _ => rfl

/-- An action without argument (it also consumes the blanks that follow it). -/
theorem C05_action_nullary (pf : Profile) (kw : Text) (a : Action)
    (hm : (kw, value a (terminated (lit kw) multispace0)) ∈ actionAlts pf) (tail : Text) (hf : Follows tail) :
    token pf (kw ++ tail) = .ok (.action a) (tail.dropWhile isBlank) := by
  rw [(keyword_action hm).token_eq hf, value_lit_blanks_append]

/-- `-print` is a prefix of `-print0` and of `-print-file-fid`, and shares `-pr` with `-prune`: each is
    read as itself. -/
theorem C05_print_family (pf : Profile) (tail : Text) (hf : Follows tail) :
    token pf (cl!"-print" ++ tail) = .ok (.action .print) (tail.dropWhile isBlank) ∧
    token pf (cl!"-print0" ++ tail) = .ok (.action .printNull) (tail.dropWhile isBlank) ∧
    token pf (cl!"-print-file-fid" ++ tail) = .ok (.action .printFid) (tail.dropWhile isBlank) ∧
    token pf (cl!"-prune" ++ tail) = .ok (.action .prune) (tail.dropWhile isBlank) :=
  ⟨C05_action_nullary pf _ _ (mem_of_lookup rfl) tail hf, C05_action_nullary pf _ _ (mem_of_lookup rfl) tail hf,
   C05_action_nullary pf _ _ (mem_of_lookup rfl) tail hf, C05_action_nullary pf _ _ (mem_of_lookup rfl) tail hf⟩

/-- `-fprint` is a prefix of `-fprint0` (and of the two-argument `-fprintf`): each is read as itself, like
    `-fls`, with a bare word as argument. -/
theorem C05_fprint_family (pf : Profile) (ws w rest : Text) (h : BlankRun ws (w ++ rest))
    (hne : w ≠ []) (hw : ∀ c ∈ w, isWordChar c = true) (hq : ∀ c r, w = c :: r → c ≠ '"' ∧ c ≠ '\'') (hs : WordStop rest) :
    token pf (cl!"-fprint" ++ (ws ++ (w ++ rest))) = .ok (.action (.filePrint w)) rest ∧
    token pf (cl!"-fprint0" ++ (ws ++ (w ++ rest))) = .ok (.action (.filePrintNull w)) rest ∧
    token pf (cl!"-fls" ++ (ws ++ (w ++ rest))) = .ok (.action (.fileList w)) rest :=
  have hstr : parseString (w ++ rest) = .ok w rest := context_ok.2 (quoteDelimiter_bare w rest hne hw hq hs)
  ⟨Keyword.token_unary_ok (keyword_action (mem_of_lookup rfl)) h hstr,
   Keyword.token_unary_ok (keyword_action (mem_of_lookup rfl)) h hstr,
   Keyword.token_unary_ok (keyword_action (mem_of_lookup rfl)) h hstr⟩

/-- `-xattr` is a prefix of `-xattr-match`, which stands before it in the table: it is read as itself, like
    `-name` and `-iname`, with a bare word as argument. -/
theorem C05_xattr_family (pf : Profile) (ws w rest : Text) (h : BlankRun ws (w ++ rest))
    (hne : w ≠ []) (hw : ∀ c ∈ w, isWordChar c = true) (hq : ∀ c r, w = c :: r → c ≠ '"' ∧ c ≠ '\'') (hs : WordStop rest) :
    token pf (cl!"-xattr" ++ (ws ++ (w ++ rest))) = .ok (.test (.xattr w)) rest ∧
    token pf (cl!"-name" ++ (ws ++ (w ++ rest))) = .ok (.test (.name w)) rest ∧
    token pf (cl!"-iname" ++ (ws ++ (w ++ rest))) = .ok (.test (.insensitiveName w)) rest :=
  have hstr : parseString (w ++ rest) = .ok w rest := context_ok.2 (quoteDelimiter_bare w rest hne hw hq hs)
  ⟨Keyword.token_unary_ok (keyword_test (mem_of_lookup rfl)) h hstr,
   Keyword.token_unary_ok (keyword_test (mem_of_lookup rfl)) h hstr,
   Keyword.token_unary_ok (keyword_test (mem_of_lookup rfl)) h hstr⟩

/-- Six test inputs around `-a`, `-amin`, `-and` and `-o`, `-or`.  The general facts: an operator word is
    read in front of a blank or the end (`token_operator`), and `-amin N` is the time test (`C05_test_unary`). -/
theorem C05_operator_family (pf : Profile) :
    token pf (cl!"-a -true") = .ok .and (cl!"-true") ∧ token pf (cl!"-and -true") = .ok .and (cl!"-true") ∧
    token pf (cl!"-o -true") = .ok .or (cl!"-true") ∧ token pf (cl!"-or") = .ok .or [] ∧
    token pf (cl!"-amin 5 -true") = .ok (.test (.accessTime (.eq (.minute 5)))) (cl!" -true") ∧
    token pf (cl!"-atime +5h)") = .ok (.test (.accessTime (.gt (.hour 5)))) (cl!")") := by
  cases pf <;> decide

/-- Every test that takes a number (`-uid -gid -inum -links -mirror-count -stripe-count`), unsigned
    spelling: exactly the decimal value, or a hard error naming the keyword. -/
theorem token_test_number (pf : Profile) (kw : Text) (tr : Comparison Nat → Test) (bound : Nat)
    (hm : (kw, unary kw tr (compFormat (parseUint bound))) ∈ testAlts pf) (ws ds rest : Text)
    (h : BlankRun ws (ds ++ rest)) (hne : ds ≠ []) (hd : ∀ c ∈ ds, isDigit c = true) (hs : DigitStop rest) :
    token pf (kw ++ (ws ++ (ds ++ rest))) =
      if decVal ds < bound then .ok (.test (tr (.eq (decVal ds)))) rest
      else .err true [expected (cl!"unsigned_integer"), label (cl!"comparison"), label kw, label (cl!"test"),
                      label (cl!"syntax")] (ds ++ rest) := by
  obtain ⟨d, ds', rfl⟩ := List.exists_cons_of_ne_nil hne
  obtain ⟨hplus, hminus⟩ := digit_not_sign (hd d (by simp))
  rw [C05_test_unary pf kw tr _ hm ws _ h]
  simp only [List.cons_append, compFormat_eq _ _ hplus hminus]
  rw [← List.cons_append, parseUint_digits bound _ rest hne hd hs]
  by_cases hb : decVal (d :: ds') < bound <;> simp [hb]

theorem C05_numeric_test (pf : Profile) (ws ds rest : Text) (h : BlankRun ws (ds ++ rest))
    (hne : ds ≠ []) (hd : ∀ c ∈ ds, isDigit c = true) (hs : DigitStop rest) :
    token pf (cl!"-uid" ++ (ws ++ (ds ++ rest))) =
      if decVal ds < 2 ^ 32 then .ok (.test (.userId (.eq (decVal ds)))) rest
      else .err true [expected (cl!"unsigned_integer"), label (cl!"comparison"), label (cl!"-uid"), label (cl!"test"),
                      label (cl!"syntax")] (ds ++ rest) :=
  token_test_number pf (cl!"-uid") Test.userId (2 ^ 32) (mem_of_lookup rfl) ws ds rest h hne hd hs

/-- Words: the same value in the three quoting styles. -/
theorem C05_word_styles (s rest : Text) (hne : s ≠ []) :
    ((∀ c ∈ s, c ≠ '"') → parseString ('"' :: (s ++ '"' :: rest)) = .ok s rest) ∧
    ((∀ c ∈ s, c ≠ '\'') → parseString ('\'' :: (s ++ '\'' :: rest)) = .ok s rest) ∧
    ((∀ c ∈ s, isWordChar c = true) → (∀ c r, s = c :: r → c ≠ '"' ∧ c ≠ '\'') → WordStop rest →
      parseString (s ++ rest) = .ok s rest) :=
  ⟨fun h => context_ok.2 (quoteDelimiter_quoted (.inl rfl) s rest hne h),
   fun h => context_ok.2 (quoteDelimiter_quoted (.inr rfl) s rest hne h),
   fun h1 h2 h3 => context_ok.2 (quoteDelimiter_bare s rest hne h1 h2 h3)⟩

/-- Format arguments: the quoted format is segmented by the reference scanner (C14), and an
    undocumented directive makes the token a hard error. -/
theorem C05_printf (pf : Profile) (ws fmt rest : Text) (h : BlankRun ws ('\'' :: (fmt ++ '\'' :: rest)))
    (hne : fmt ≠ []) (hq : ∀ c ∈ fmt, c ≠ '\'') :
    match Spec.Printf.seg fmt with
    | some els => token pf (cl!"-printf" ++ (ws ++ ('\'' :: (fmt ++ '\'' :: rest)))) = .ok (.action (.printFormatted els)) rest
    | none => ∃ c r, token pf (cl!"-printf" ++ (ws ++ ('\'' :: (fmt ++ '\'' :: rest)))) = .err true c r := by
  have hqd := quoteDelimiter_quoted (.inr rfl) fmt rest hne hq
  rw [C05_action_unary pf (cl!"-printf") Action.printFormatted (formatArg pf) (mem_of_lookup rfl) ws _ h]
  cases hs : Spec.Printf.seg fmt with
  | some els => simp only [formatArg_of_seg pf hqd hs]
  | none =>
    obtain ⟨c, hf⟩ := formatArg_of_seg_none pf hqd hs
    exact ⟨_, _, by rw [hf]⟩

end FV

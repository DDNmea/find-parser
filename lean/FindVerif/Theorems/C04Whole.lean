import FindVerif.Proofs.Read.Whole
/-
  C04, whole program: for every tree that compiles and every device path, the emitted text reads back
  — with the independent Scheme reader — as exactly two forms, `(use-modules …)` and
  `(let* (bindings…) (dynamic-wind … (lipe-scan "device" … (lambda () body) …) …))`, whose bindings
  and policy body are the structured program of the same tree (every user string a string datum, by
  construction of the structured generator) and whose device argument is the string datum of the
  path.  No user string can therefore close its literal, open a form or a comment, or reach `format`
  as a directive (`C04_template_verbatim` in `Theorems/C04.lean`).
-/
namespace FV
open Scheme Spec

theorem options_text (o : RunOptions) :
    (match o.threads with | some c => nat c | none => cl!"(lipe-getopt-thread-count)") = optionsT o := by
  rfl

theorem C04_whole_program (clk : Nat → Nat) (e : Expr) (o : RunOptions) (c : Compiled) (mdt : Text)
    (hc : compile clk e o = .ok c) :
    ∃ (ps : ProgramS) (p : Program) (forms : List SExp), compileS clk e = .ok ps ∧
      readAll (c.scheme mdt) = some forms ∧ programOf forms = some p ∧
      p.bindings = ps.bindings ∧ p.body = ps.body ∧ p.device = .str mdt ∧ c.ioMap = ps.ioMap := by
  rw [compile_eq] at hc
  obtain ⟨⟨bt, st⟩, hce, rfl⟩ := CRes.map_ok_iff.mp hc
  have hal := expr_aligned clk (policyTree e) { mgr := initialManager e }
  rw [hce] at hal
  obtain ⟨bs, hge, hbody⟩ := hal.of_ok
  obtain ⟨fini, hfin⟩ := prints_terminate st.mgr ((Emits.of_ok hce).keeps FiniOk.keeps (.initial e))
  obtain ⟨mods, hm, hmd⟩ := prints_modules st.mgr
  refine ⟨{ bindings := st.mgr.vars.map Binding.sexp, body := bs, ioMap := st.mgr.printerMap }, _, _, ?_,
    readAll_scheme _ mdt hm hmd (prints_definitions st.mgr) Prints.boolT hbody (prints_options o) hfin,
    programOf_frame mods st.mgr.vars mdt _ bs _ fini, rfl, rfl, rfl, rfl⟩
  rw [compileS_eq, hge]
  rfl

end FV
